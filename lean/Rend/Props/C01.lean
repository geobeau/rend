/-
  C01 — Single-cache illusion: replies equal those of one memcached-like map.

  The orchestrator models (`L1Only.step`, `L1L2.step`, `L1L2Batch.step`, transcribed from
  orcas/*.go and tied to it by the byte-exact full-stack correspondence) run over the
  pass-through handler model on both tiers, every backend request being answered by the
  reference map `Mc.exec`.  The specification is `Spec.step`: ONE map.

  `Agrees c o res evs` says: what the orchestrator returned (`res`) and told the responder
  (`evs`) carries exactly the content of the specification's answer `o` — success / refusal,
  and for reads each requested key's hit-or-miss, flags and data (as a multiset: the order in
  which a multi-key get answers its keys is not part of the contract, L1 hits come first).
-/
import Rend.Proofs.OrcaSeq
import Rend.Proofs.LockedRefine

namespace Rend.Props.C01
open Rend

/-- Main port (L1 in front of L2), one command, any state satisfying the cache invariant. -/
theorem C01_main_port_step (now : Nat) (w : World) (tk : List Bytes) (c : Cmd) (hc : TwoTier c)
    (hinv : CacheInv now w) :
    let r := (L1L2.step (Std.handler .l1) (Std.handler .l2) c).eval now w tk
    r.2.2.1.l2 = (Spec.step now w.l2 c).1 ∧ CacheInv now r.2.2.1 ∧ Agrees c (Spec.step now w.l2 c).2 r.1 r.2.1 :=
  portStep_refines now w tk .main c hc hinv

/-- The same on the batch port, whose orchestrator (l1l2batch.go) never creates L1 entries. -/
theorem C01_batch_port_step (now : Nat) (w : World) (tk : List Bytes) (c : Cmd) (hc : TwoTier c)
    (hinv : CacheInv now w) :
    let r := (L1L2Batch.step (Std.handler .l1) (Std.handler .l2) c).eval now w tk
    r.2.2.1.l2 = (Spec.step now w.l2 c).1 ∧ CacheInv now r.2.2.1 ∧ Agrees c (Spec.step now w.l2 c).2 r.1 r.2.1 :=
  portStep_refines now w tk .batch c hc hinv

/-- L1-only, one command, any state at all. -/
theorem C01_l1only_step (now : Nat) (w : World) (tk : List Bytes) (c : Cmd) :
    let r := (L1Only.step (Std.handler .l1) c).eval now w tk
    r.2.2.1.l1 = (Spec.step now w.l1 c).1 ∧ r.2.2.1.l2 = w.l2 ∧ Agrees c (Spec.step now w.l1 c).2 r.1 r.2.1 :=
  L1Only.step_refines now _ (Std.servesMap now) w tk c

/-- **Every history** of commands issued one at a time on the main and the batch port — with
    clock ticks and losses of L1 entries in between — starting from empty tiers is answered,
    command by command, as the single map answers the same commands. -/
theorem C01_histories (acts : List Act) (now : Nat) (tk : List Bytes) (h : ActsTwoTier acts) :
    AllAgree (runActs now {} tk acts) (specActs now Store.empty acts) :=
  (history_refines acts now {} tk h (.empty now)).1

/-- The same for any starting state that satisfies the invariant (e.g. a warm cache). -/
theorem C01_histories_from (acts : List Act) (now : Nat) (w : World) (tk : List Bytes) (h : ActsTwoTier acts)
    (hinv : CacheInv now w) : AllAgree (runActs now w tk acts) (specActs now w.l2 acts) :=
  (history_refines acts now w tk h hinv).1

/-- **With the locking wrapper** (any number of lock stripes, both ports sharing the lock set, the
    wrapper instantiated from the regenerated facts): every history is answered — lock events
    aside — as the single map answers it; a multi-key get, which the wrapper performs as one
    locked single-key get per key with the terminators of all but the last held back, yields one
    answer per key and one terminator. -/
theorem C01_histories_locked (bits : Nat) (acts : List Act) (now : Nat) (tk : List Bytes) (h : ActsTwoTier acts)
    (hne : ActsGetsNonEmpty acts) :
    AllAgree (runActsL bits now {} tk acts) (specActs now Store.empty acts) :=
  (history_refines_locked bits acts now {} tk h hne (.empty now)).1

/-- One step under the wrapper, any state satisfying the invariant. -/
theorem C01_locked_step (now bits : Nat) (w : World) (tk : List Bytes) (p : Port) (c : Cmd) (hc : TwoTier c)
    (hk : GetsNonEmpty c) (hinv : CacheInv now w) :
    ((Locked.step bits (portStep p) c).eval now w tk).2.2.1.l2 = (Spec.step now w.l2 c).1 ∧
    CacheInv now ((Locked.step bits (portStep p) c).eval now w tk).2.2.1 ∧
    Agrees c (Spec.step now w.l2 c).2 ((Locked.step bits (portStep p) c).eval now w tk).1
      (respsOnly ((Locked.step bits (portStep p) c).eval now w tk).2.1) :=
  locked_step_refines now bits w tk p c hc hk hinv

/-- L1-only: every history, from any state. -/
theorem C01_histories_l1only (acts : List (Nat × Cmd)) (now : Nat) (w : World) (tk : List Bytes) :
    AllAgree (runActs1 now w tk acts) (specActs1 now w.l1 acts) :=
  history_refines_l1only acts now w tk

/-- The runner the correspondence driver executes is `eval` when no fault is planned: the
    theorems above are about the very function whose outputs are compared with rend's bytes. -/
theorem C01_runner_is_eval {α : Type} (now : Nat) (p : OProg α) (s : RunSt) (h1 : s.dead1 = false) (h2 : s.dead2 = false) :
    (p.runSt now none s).1 = (p.eval now s.w s.toks).1 ∧ (p.runSt now none s).2.1 = (p.eval now s.w s.toks).2.1 ∧
      (p.runSt now none s).2.2.w = (p.eval now s.w s.toks).2.2.1 :=
  let h := Prog.runSt_none_eval now p s h1 h2
  ⟨h.1, h.2.1, h.2.2.1⟩

/-- Non-vacuity: the hypotheses are met by a real history, and `Agrees` does discriminate:
    a successful set is not confused with a refused one. -/
example : ActsTwoTier [.cmd .main (.store .set { key := [1], data := [2] }), .tick 5, .evict (fun _ => true),
    .cmd .batch (.get { keys := [{ key := [1] }] })] := by
  intro p c h
  simp at h
  rcases h with ⟨_, rfl⟩ | ⟨_, rfl⟩ <;> intro g hg <;> cases hg

example (k : SetKind) (sc : SetCmd) (res : HRes Unit) (evs : List OEv) :
    ¬ (Agrees (.store k sc) .ok res evs ∧ Agrees (.store k sc) .fail res evs) := by
  intro ⟨h1, h2⟩
  simp only [Agrees] at h1 h2
  rw [h1.2] at h2
  simp at h2

end Rend.Props.C01
