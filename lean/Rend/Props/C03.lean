/-
  C03 — Under the locking wrapper, concurrent commands on one key are atomic.

  (1) The lock set is an exclusion device for every schedule of any number of connections:
  `C03_exclusion`, `C03_writer_alone`.  (2) Which lock each command takes and that both ports use
  ONE lock set (regenerated facts: `C03_lock_modes`, `C03_lock_wiring`); a key always maps to the
  same stripe (`C03_stripe_function`).  (3) THE REDUCTION, over the scheduler semantics of
  `Proofs/Sched.lean`, in which a command is one critical section under one lock (that is built
  into the step relation; nothing of C12 is used): under exclusive locks `C03_serializable` and,
  against the single map, `C03_linearizable`; (4) with SHARED read locks for gets
  `C03_linearizable_shared_reads`; (5) with a CHUNKED L1 under exclusive locks
  `C03_serializable_chunked` (L1 only) and `C03_serializable_chunked_two_tier` (in front of L2).
  The reduction goes by an invariant that holds at every point of every schedule
  (`Proofs/SerialFootT.lean`); it never commutes requests.
  The correspondence explores every admitted interleaving of small programs in both modes and
  checks linearizability of each history.
-/
import Rend.Orcas.Locked
import Rend.Props.C14
import Rend.Proofs.KeyLocal
import Rend.Proofs.SerialMR
import Rend.Proofs.ChunkedSerial

namespace Rend.Props.C03
open Rend

/-- A holder of a stripe: (connection, stripe, read mode). -/
abbrev Holder := Nat × Nat × Bool

inductive LEv where
  | acq (c s : Nat) (read : Bool)
  | rel (c s : Nat) (read : Bool)

/-- Two holders are compatible: different stripes, or both readers of a multi-reader lock. -/
def Compat (singleReader : Bool) (x y : Holder) : Prop :=
  x.2.1 ≠ y.2.1 ∨ (x.2.2 = true ∧ y.2.2 = true ∧ singleReader = false)

instance (sr : Bool) (x y : Holder) : Decidable (Compat sr x y) := by unfold Compat; infer_instance

/-- What `sync.Mutex` / `sync.RWMutex` admit: an acquisition succeeds only when it is compatible
    with every current holder (modelled, not verified). -/
def admits (sr : Bool) (held : List Holder) (n : Holder) : Prop := ∀ x ∈ held, Compat sr x n

inductive Admitted (sr : Bool) : List Holder → List LEv → List Holder → Prop where
  | nil (h) : Admitted sr h [] h
  | acq (h h') (c s read rest) : admits sr h (c, s, read) → Admitted sr (h ++ [(c, s, read)]) rest h' →
      Admitted sr h (.acq c s read :: rest) h'
  | rel (h h') (c s read rest) : Admitted sr (h.erase (c, s, read)) rest h' → Admitted sr h (.rel c s read :: rest) h'

def Excl (sr : Bool) (held : List Holder) : Prop := held.Pairwise (Compat sr)

theorem compat_symm (sr : Bool) (x y : Holder) (h : Compat sr x y) : Compat sr y x := by
  rcases h with h | ⟨a, b, c⟩
  · exact Or.inl (Ne.symm h)
  · exact Or.inr ⟨b, a, c⟩

/-- **Mutual exclusion for every schedule**: whatever the interleaving of any number of
    connections' lock operations, the holders stay pairwise compatible. -/
theorem C03_exclusion (sr : Bool) : ∀ (h : List Holder) (evs : List LEv) (h' : List Holder),
    Admitted sr h evs h' → Excl sr h → Excl sr h' := by
  intro h evs h' ha
  induction ha with
  | nil h => exact id
  | acq h h' c s read rest hadm _ ih =>
    exact fun hex => ih (List.pairwise_append.mpr
      ⟨hex, List.pairwise_singleton _ _, fun x hx y hy => List.mem_singleton.mp hy ▸ hadm x hx⟩)
  | rel h h' c s read rest _ ih => exact fun hex => ih (hex.sublist (List.erase_sublist ..))

/-- A stripe held by a writer has no other holder; in single-reader mode no stripe has two holders. -/
theorem C03_writer_alone (sr : Bool) (held : List Holder) (hex : Excl sr held) (i j : Nat) (hi : i < held.length)
    (hj : j < held.length) (hij : i < j) (hs : held[i].2.1 = held[j].2.1) :
    held[i].2.2 = true ∧ held[j].2.2 = true ∧ sr = false :=
  (List.pairwise_iff_getElem.mp hex i j hi hj hij).resolve_left fun h => h hs

/-- Which lock a command takes (regenerated facts): write lock for every mutating command and
    get-and-touch, read lock for get / getE; the wrapper calls the wrapped method of the same
    name; both ports of memproxy share one lock set, the batch port wraps `L1L2Batch`, and what each
    port's `ListenAndServe` is handed IS the variable the wrapper was assigned to. -/
theorem C03_lock_modes :
    (∀ n ∈ ["Set", "Add", "Replace", "Append", "Prepend", "Delete", "Touch", "Gat"],
      (lockedFact n).usesLock = true ∧ (lockedFact n).readLock = false) ∧
    (∀ n ∈ ["Get", "GetE"], (lockedFact n).usesLock = true ∧ (lockedFact n).readLock = true) ∧
    Gen.memproxySharesLockSet = true ∧ Gen.memproxyBatchOrca = "L1L2Batch" ∧
    Gen.memproxyMainServesLocked = true ∧ Gen.memproxyBatchServesLocked = true := by
  decide

/-- How the lock set is wired (regenerated facts): both constructors — the one for the main port
    and the one that re-uses an existing lock set for the batch port — store the slot's write
    lockers in `locks` and its read lockers in `rlocks`; `getlock` hands out `rlocks[bucket]` for
    read mode and `locks[bucket]` otherwise, the bucket coming from the hash of the key it is
    given; every keyed method asks for the lock of the request's own key. -/
theorem C03_lock_wiring :
    Gen.lockedCtorWiring = [("Locked", "locks", "locks"), ("Locked", "rlocks", "rlocks"),
      ("LockedWithExisting", "locks", "locks"), ("LockedWithExisting", "rlocks", "rlocks")] ∧
    Gen.getlockReadField = "rlocks" ∧ Gen.getlockWriteField = "locks" ∧ Gen.getlockHashesKey = true ∧
    (∀ n ∈ ["Set", "Add", "Replace", "Append", "Prepend", "Delete", "Touch", "Gat"], (n, "req.Key") ∈ Gen.getlockKeyArg) ∧
    (∀ n ∈ ["Get", "GetE"], (n, "key") ∈ Gen.getlockKeyArg) := by
  decide

/-- The stripe is a function of the key, within the table. -/
theorem C03_stripe_function (bits : Nat) (k : Bytes) : stripeOf bits k < 2 ^ bits := by
  unfold stripeOf
  exact Nat.mod_lt _ (Nat.two_pow_pos bits)

/-- Requests on different keys commute: `C14_requests_commute` again.  The reduction does not use it. -/
theorem C03_swap (now1 now2 : Nat) (s : Store) (r1 r2 : Req) (h : r1.key ≠ r2.key) :
    (Mc.exec now2 (Mc.exec now1 s r1).1 r2).1 = (Mc.exec now1 (Mc.exec now2 s r2).1 r1).1 ∧
    (Mc.exec now1 s r1).2 = (Mc.exec now1 (Mc.exec now2 s r2).1 r1).2 ∧
    (Mc.exec now2 (Mc.exec now1 s r1).1 r2).2 = (Mc.exec now2 s r2).2 :=
  C14.C14_requests_commute now1 now2 s r1 r2 h

open Conc in
/-- Command `i`: arrives on port `ports i`, is `cmds i`, works on key `keys i`; between `Lock()`
    and `Unlock()` of the key's stripe it runs the port's orchestrator over the pass-through
    handlers. -/
def threads (bits : Nat) (ports : Nat → Port) (cmds : Nat → Cmd) (keys : Nat → Bytes) : Nat → Conc.Thread (HRes Unit) :=
  fun i => { key := keys i, stripe := stripeOf bits (keys i), body := portStep (ports i) (cmds i) }

def actsOf (ports : Nat → Port) (cmds : Nat → Cmd) (order : List Nat) : List Act :=
  order.map (fun i => Act.cmd (ports i) (cmds i))

theorem seqObs_eq_runActs (now bits : Nat) (ports : Nat → Port) (cmds : Nat → Cmd) (keys : Nat → Bytes) :
    ∀ (order : List Nat) (w : World),
      Conc.seqObs now (threads bits ports cmds keys) w order = runActs now w [] (actsOf ports cmds order) ∧
      Conc.seqEnd now (threads bits ports cmds keys) w order = (endActs now w [] (actsOf ports cmds order)).2
  | [], w => ⟨rfl, rfl⟩
  | i :: rest, w => by
    obtain ⟨a, b⟩ := seqObs_eq_runActs now bits ports cmds keys rest ((portStep (ports i) (cmds i)).eval now w []).2.2.1
    simp only [Conc.seqObs, Conc.seqEnd, actsOf, List.map_cons, runActs, endActs, threads]
    -- `runActs` threads the token list, `seqObs` starts every command from `[]`
    rw [Conc.eval_nil_tk]
    exact ⟨by rw [a]; rfl, by rw [b]; rfl⟩

/-- **Serializability** under exclusive stripe locks (every mutating command and get-and-touch
    always; gets too in single-reader mode).  Any number of connections, each running a single-key
    command's orchestrator program between `Lock()` and `Unlock()` of its key's stripe, scheduled in
    ANY way the lock table admits at the granularity of single backend requests and responder
    calls, ending with nobody inside a critical section: both tiers hold what running the commands
    whole, one after another in the order of their lock acquisitions, leaves, and the commands,
    listed in that order, returned and emitted exactly what that sequential run does. -/
theorem C03_serializable (now bits : Nat) (ports : Nat → Port) (cmds : Nat → Cmd) (keys : Nat → Bytes)
    (hk : ∀ i, cmdKey (cmds i) = some (keys i)) (w : World) (sched : List Conc.Step) (c' : Conc.Conf (HRes Unit))
    (hex : Conc.Exec now (threads bits ports cmds keys) (Conc.Conf.init w) sched c')
    (hquiet : ∀ i p evs, c'.ts i ≠ .running p evs) :
    c'.w = (endActs now w [] (actsOf ports cmds (Conc.acqOrder sched))).2 ∧
    (Conc.acqOrder sched).map c'.ts =
      (runActs now w [] (actsOf ports cmds (Conc.acqOrder sched))).map (fun o => Conc.TState.done o.1 o.2) := by
  have h := Conc.serializable_obs now (threads bits ports cmds keys)
    (fun i => portStep_keyLocal (ports i) (cmds i) (keys i) (hk i)) (fun _ _ => congrArg (stripeOf bits))
    w sched c' hex hquiet
  obtain ⟨e1, e2⟩ := seqObs_eq_runActs now bits ports cmds keys (Conc.acqOrder sched) w
  rw [e1, e2] at h
  exact h

/-- **Linearizability, both lock modes** (`reads i = true`: connection `i` is a single-key get
    holding the SHARED read lock of its key — multi-reader mode, memproxy's default; every other
    command, and every get in single-reader mode, holds its stripe exclusively).  Two gets of one
    key may interleave their L1 back-fills, so the run need not equal a sequential run of the
    implementation request by request.  Still, for connections and schedules as in
    `C03_serializable`, commands the two-tier orchestrators accept, from a state with the cache
    invariant: the commands, listed in the order of their lock acquisitions, returned and emitted
    what the single map answers when they are applied in that order; at the end L2 is that map and
    the cache invariant holds.  (A get, answered at each of its requests from ANY state its key
    can be in during a read phase, keeps the key in that class and returns L2's value:
    `Proofs/ReaderStable.lean`, `ReaderGet.lean`, `SerialMR.lean`.) -/
theorem C03_linearizable_shared_reads (now bits : Nat) (ports : Nat → Port) (cmds : Nat → Cmd) (keys : Nat → Bytes)
    (reads : Nat → Bool) (hk : ∀ i, cmdKey (cmds i) = some (keys i)) (htt : ∀ i, TwoTier (cmds i))
    (hrd : ∀ i, reads i = true → ∃ g gk, cmds i = .get g ∧ g.keys = [gk])
    (w : World) (hinv : CacheInv now w) (sched : List Conc.Step) (c' : Conc.Conf (HRes Unit))
    (hex : Conc.ExecR now (fun i => { port := ports i, cmd := cmds i, key := keys i, stripe := stripeOf bits (keys i), read := reads i })
      (Conc.Conf.init w) sched c')
    (hquiet : ∀ i p evs, c'.ts i ≠ .running p evs) :
    ∃ obs : List (HRes Unit × List OEv),
      (Conc.acqOrder sched).map c'.ts = obs.map (fun o => Conc.TState.done o.1 o.2) ∧
      AllAgree obs (specActs now w.l2 (actsOf ports cmds (Conc.acqOrder sched))) ∧
      c'.w.l2 = specEnd now w.l2 (actsOf ports cmds (Conc.acqOrder sched)) ∧
      CacheInv now c'.w :=
  Conc.linearizable_mr now _ ⟨hk, htt, hrd, fun _ _ => congrArg (stripeOf bits)⟩ w hinv sched c' hex hquiet

/-- **Linearizability against the single map** under exclusive locks: the case of
    `C03_linearizable_shared_reads` in which nobody takes a read lock, over `Exec`. -/
theorem C03_linearizable (now bits : Nat) (ports : Nat → Port) (cmds : Nat → Cmd) (keys : Nat → Bytes)
    (hk : ∀ i, cmdKey (cmds i) = some (keys i)) (htt : ∀ i, TwoTier (cmds i)) (w : World) (hinv : CacheInv now w)
    (sched : List Conc.Step) (c' : Conc.Conf (HRes Unit))
    (hex : Conc.Exec now (threads bits ports cmds keys) (Conc.Conf.init w) sched c')
    (hquiet : ∀ i p evs, c'.ts i ≠ .running p evs) :
    ∃ obs : List (HRes Unit × List OEv),
      (Conc.acqOrder sched).map c'.ts = obs.map (fun o => Conc.TState.done o.1 o.2) ∧
      AllAgree obs (specActs now w.l2 (actsOf ports cmds (Conc.acqOrder sched))) ∧
      c'.w.l2 = specEnd now w.l2 (actsOf ports cmds (Conc.acqOrder sched)) ∧
      CacheInv now c'.w :=
  C03_linearizable_shared_reads now bits ports cmds keys (fun _ => false) hk htt (fun _ h => nomatch h) w hinv sched c'
    (Conc.execR_iff.mpr ((Conc.exec_iff.mp hex).mono fun _ _ ha => ha.shared _)) hquiet

/-- As `threads`, on a chunked L1-only deployment. -/
def chunkedThreads (bits : Nat) (cmds : Nat → Cmd) (keys : Nat → Bytes) : Nat → Conc.ChThread :=
  fun i => { cmd := cmds i, key := keys i, stripe := stripeOf bits (keys i) }

/-- **Serializability with a chunked L1** (L1-only deployment, memproxy --chunked): what
    `C03_serializable` says, although the chunking handler spreads a value over a metadata entry
    and numbered chunks and talks to the backend many times per command.  The sequential run is
    `seqEndF` / `seqObsF`: each command's program evaluated whole on the state its predecessor left.
    (Footprint: `l1only_chunked_footLocal`, from `Chunked.handler_foot` of `Proofs/ChunkedTier.lean`;
    footprints of different client keys are disjoint: `chunkFoot_disjoint`.) -/
theorem C03_serializable_chunked (now bits : Nat) (cmds : Nat → Cmd) (keys : Nat → Bytes)
    (hk : ∀ i, cmdKey (cmds i) = some (keys i)) (w : World) (sched : List Conc.Step) (c' : Conc.Conf (HRes Unit))
    (hex : Conc.ExecF now (fun i => (chunkedThreads bits cmds keys i).toF now) (Conc.Conf.init w) sched c')
    (hquiet : ∀ i p evs, c'.ts i ≠ .running p evs) :
    c'.w = Conc.seqEndF now (fun i => (chunkedThreads bits cmds keys i).toF now) w (Conc.acqOrder sched) ∧
    (Conc.acqOrder sched).map c'.ts =
      (Conc.seqObsF now (fun i => (chunkedThreads bits cmds keys i).toF now) w (Conc.acqOrder sched)).map
        (fun o => Conc.TState.done o.1 o.2) :=
  Conc.serializable_chunked_obs now (chunkedThreads bits cmds keys) hk (fun _ _ => congrArg (stripeOf bits))
    w sched c' hex hquiet

/-- As `threads`, with a chunked L1 in front of L2 (main and batch port: `portStepC`). -/
def chunkedThreads2 (bits : Nat) (ports : Nat → Port) (cmds : Nat → Cmd) (keys : Nat → Bytes) : Nat → Conc.ChThread2 :=
  fun i => { port := ports i, cmd := cmds i, key := keys i, stripe := stripeOf bits (keys i) }

/-- **Serializability with a chunked L1 in front of L2** (memproxy --chunked --l2-enabled): what
    `C03_serializable` says, for EVERY set of client keys; sequential run `seqEndT` / `seqObsT`.
    Footprints are per tier (`Proofs/SerialFootT.lean`): client key `k` owns `(L2, k)` and
    `(L1, k-meta)`, `(L1, k-0)`, …; every backend request of a single-key command stays inside
    (`portStepC_footT`: the handler's requests carry their tier, `Proofs/ChunkedTier.lean`), and
    footprints of different client keys are disjoint whatever the keys look like (`footT_disjoint`:
    the L2 entry `a-0` of client key `a-0` and chunk 0 of client key `a` are in different stores). -/
theorem C03_serializable_chunked_two_tier (now bits : Nat) (ports : Nat → Port) (cmds : Nat → Cmd) (keys : Nat → Bytes)
    (hk : ∀ i, cmdKey (cmds i) = some (keys i))
    (w : World) (sched : List Conc.Step) (c' : Conc.Conf (HRes Unit))
    (hex : Conc.ExecT now (fun i => (chunkedThreads2 bits ports cmds keys i).toT now) (Conc.Conf.init w) sched c')
    (hquiet : ∀ i p evs, c'.ts i ≠ .running p evs) :
    c'.w = Conc.seqEndT now (fun i => (chunkedThreads2 bits ports cmds keys i).toT now) w (Conc.acqOrder sched) ∧
    (Conc.acqOrder sched).map c'.ts =
      (Conc.seqObsT now (fun i => (chunkedThreads2 bits ports cmds keys i).toT now) w (Conc.acqOrder sched)).map
        (fun o => Conc.TState.done o.1 o.2) :=
  Conc.serializable_chunked2 now (chunkedThreads2 bits ports cmds keys) hk (fun _ _ => congrArg (stripeOf bits))
    w sched c' hex hquiet

/-- Non-vacuity: client keys `a` and `a-0` (the second has the form of chunk 0 of the first) have
    disjoint footprints — the theorem covers them — while their tier-agnostic footprints meet. -/
example : (∀ l, Conc.footT [97] l → ¬ Conc.footT (Chunked.chunkKey [97] 0) l) ∧
    Conc.foot2 [97] (Chunked.chunkKey [97] 0) ∧ Conc.foot2 (Chunked.chunkKey [97] 0) (Chunked.chunkKey [97] 0) := by
  refine ⟨fun l h h' => ?_, Or.inr (Or.inr ⟨0, rfl⟩), Or.inl rfl⟩
  have := Conc.footT_disjoint _ _ l h h'
  exact absurd (congrArg List.length this) (by simp [Chunked.chunkKey])

/-- Non-vacuity (chunked): `set a` and `delete a` — once the first connection has its lock, the
    second one cannot enter. -/
example : ∀ c1, Conc.Step1F 100 (fun i => (chunkedThreads 3 (fun i => if i = 0 then .store .set { key := [97], data := [1] } else .delete { key := [97] })
      (fun _ => [97]) i).toF 100) (Conc.Conf.init {}) (.acq 0) c1 →
    ∀ c2, ¬ Conc.Step1F 100 (fun i => (chunkedThreads 3 (fun i => if i = 0 then .store .set { key := [97], data := [1] } else .delete { key := [97] })
      (fun _ => [97]) i).toF 100) c1 (.acq 1) c2 := by
  intro c1 h1 c2 h2
  cases h1 with
  | acq _ _ _ =>
    cases h2 with
    | acq _ _ hfree => exact hfree 0 _ _ (Conc.set_self _ _ _) rfl

/-- Non-vacuity: two gets of one key under shared read locks may both be inside their critical
    sections (admitted). -/
example : ∀ c1, Conc.StepR 100 (fun i => { port := .main, cmd := .get { keys := [{ key := [97] }] }, key := [97], stripe := stripeOf 3 [97], read := true })
      (Conc.Conf.init {}) (.acq 0) c1 →
    ∃ c2, Conc.StepR 100 (fun i => { port := .main, cmd := .get { keys := [{ key := [97] }] }, key := [97], stripe := stripeOf 3 [97], read := true }) c1 (.acq 1) c2 := by
  intro c1 h1
  cases h1 with
  | acq _ _ _ =>
    refine ⟨_, Conc.StepR.acq _ 1 ?_ ?_⟩
    · rw [Conc.set_other _ _ _ _ (by decide)]; rfl
    · intro j p evs _ _; exact ⟨rfl, rfl⟩

/-- Non-vacuity of the reduction: two connections, `set a` and `delete a` on the main port; the
    first one's acquisition is admitted, and (next example) no step lets the second one into the
    first one's critical section. -/
example : ∃ c', Conc.Exec 100 (threads 3 (fun _ => .main)
      (fun i => if i = 0 then .store .set { key := [97], data := [1] } else .delete { key := [97] }) (fun _ => [97]))
      (Conc.Conf.init {}) [.acq 0] c' :=
  ⟨_, Conc.Exec.cons _ _ _ _ _ (Conc.Step1.acq _ 0 rfl (fun j p evs h => by simp [Conc.Conf.init] at h)) (Conc.Exec.nil _)⟩

example : ∀ c1 c', Conc.Step1 100 (threads 3 (fun _ => .main)
      (fun i => if i = 0 then .store .set { key := [97], data := [1] } else .delete { key := [97] }) (fun _ => [97]))
      (Conc.Conf.init {}) (.acq 0) c1 → ¬ Conc.Step1 100 (threads 3 (fun _ => .main)
      (fun i => if i = 0 then .store .set { key := [97], data := [1] } else .delete { key := [97] }) (fun _ => [97]))
      c1 (.acq 1) c' := by
  intro c1 c' h1 h2
  cases h1 with
  | acq _ _ _ =>
    cases h2 with
    | acq _ _ hfree => exact hfree 0 _ _ (Conc.set_self _ _ _) rfl

/-- Non-vacuity: two writers on one stripe are not admitted, two readers are (multi-reader mode only). -/
example : ¬ Excl false [(1, 3, false), (2, 3, false)] := by
  simp [Excl, Compat]
example : Excl false [(1, 3, true), (2, 3, true)] := by
  simp [Excl, Compat]
example : ¬ Excl true [(1, 3, true), (2, 3, true)] := by
  simp [Excl, Compat]

end Rend.Props.C03
