/-
  C14 — Concurrent connections do not interfere with each other.

  (1) The pooled objects (request / response headers, scratch buffers) are the only mutable state a
  connection shares with others without a lock besides the metrics and the lock tables: no
  control-flow path uses or returns one after handing it back (`C14_no_use_after_put`, over
  per-path event sequences regenerated from the source on every run; `C14_pool_functions_covered`).
  (2) Connections working on disjoint keys cannot influence each other through the backends: a
  backend request reads and writes the one entry it addresses (`exec_local`,
  `C14_other_keys_invisible`), so requests on different keys commute (`C14_requests_commute`).
  (3) THE COMPOSITION over the scheduler semantics of `Proofs/Sched.lean`, without locks:
  `C14_no_interference` (a sequence of orchestrator calls on private keys satisfies its hypothesis:
  `runCmds_private`); (4) the same with a chunked L1 (L1-only deployment), where a command on a
  client key is many requests on entries derived from it: `C14_no_interference_chunked`.
-/
import Rend.Gen.Facts
import Rend.Proofs.KeyLocal
import Rend.Proofs.ChunkedSerial

namespace Rend.Props.C14
open Rend

/-- A path keeps the discipline when no use (`u`) and no return to the caller (`r`) follows a
    Put (`p`) unless the variable was obtained again (`g`) in between. -/
def okPath : Bool → List Gen.PoolEv → Bool
  | _, [] => true
  | _, .g :: rest => okPath true rest
  | _, .p :: rest => okPath false rest
  | held, .u :: rest => held && okPath held rest
  | held, .r :: rest => held && okPath held rest

/-- **No pooled object is touched after it went back to its pool**, on any control-flow path of
    any function of binprot / std / chunked that puts something into a pool (regenerated table). -/
theorem C14_no_use_after_put :
    ∀ e ∈ Gen.poolPaths, ∀ p ∈ e.2.2, okPath true p = true := by
  decide

/-- The table is not empty and covers the functions the handlers and the parser go through. -/
theorem C14_pool_functions_covered :
    ∀ n ∈ ["protocol/binprot.ReadResponseHeader", "protocol/binprot.readRequestHeader", "protocol/binprot.Parse",
           "handlers/memcached/std.GetLocal", "handlers/memcached/std.simpleCmdLocal",
           "handlers/memcached/chunked.getLocalIntoBuf", "handlers/memcached/chunked.getMetadataCommon",
           "handlers/memcached/chunked.simpleCmdLocal"],
      (Gen.poolPaths.any (fun e => e.1 == n)) = true := by
  -- string comparisons over the whole table: the elaborator's evaluator is slow on them, the kernel is not
  decide +kernel

/-- Non-vacuity: the discipline rejects a use after a Put and a return after a Put. -/
example : okPath true [.g, .u, .p, .u] = false := by decide
example : okPath true [.g, .p, .r] = false := by decide
example : okPath true [.u, .p, .g, .u, .p] = true := by decide

def single (key : Bytes) (v : Option Item) : Store := fun k => if k = key then v else none

/-- What a request does to the one entry it addresses, and what it answers. -/
def localStep (now : Nat) (r : Req) (v : Option Item) : Option Item × Resp :=
  ((Mc.exec now (single r.key v) r).1 r.key, (Mc.exec now (single r.key v) r).2)

/-- **Locality**: a backend request answers from, and changes, only the entry of its own key. -/
theorem exec_local (now : Nat) (s : Store) (r : Req) :
    (Mc.exec now s r).2 = (localStep now r (s r.key)).2 ∧
    ∀ k, (Mc.exec now s r).1 k = if k = r.key then (localStep now r (s r.key)).1 else s k := by
  obtain ⟨a, b⟩ := Mc.exec_congr now (s := s) (s' := single r.key (s r.key)) r (by simp [single])
  refine ⟨a, fun k => ?_⟩
  split
  · next hk =>
    rw [hk]
    exact b
  · next hk => exact Mc.exec_other now s r hk

/-- **Requests on different keys commute**: executed in either order (at any two times) they give
    the same two answers and the same final store. -/
theorem C14_requests_commute (now1 now2 : Nat) (s : Store) (r1 r2 : Req) (h : r1.key ≠ r2.key) :
    (Mc.exec now2 (Mc.exec now1 s r1).1 r2).1 = (Mc.exec now1 (Mc.exec now2 s r2).1 r1).1 ∧
    (Mc.exec now1 s r1).2 = (Mc.exec now1 (Mc.exec now2 s r2).1 r1).2 ∧
    (Mc.exec now2 (Mc.exec now1 s r1).1 r2).2 = (Mc.exec now2 s r2).2 := by
  -- neither request touches the other's entry, so each answers, and leaves under its key, what it
  -- does when it is the first
  obtain ⟨a2, b2⟩ := Mc.exec_congr now2 r2 (Mc.exec_other now1 s r1 (Ne.symm h))
  obtain ⟨a1, b1⟩ := Mc.exec_congr now1 r1 (Mc.exec_other now2 s r2 h)
  refine ⟨funext fun k => ?_, a1.symm, a2⟩
  by_cases h2 : k = r2.key
  · rw [h2, b2, Mc.exec_other now1 _ r1 (Ne.symm h)]
  · by_cases h1 : k = r1.key
    · rw [h1, Mc.exec_other now2 _ r2 h, b1]
    · rw [Mc.exec_other now2 _ r2 h2, Mc.exec_other now1 _ r1 h1, Mc.exec_other now1 _ r1 h1, Mc.exec_other now2 _ r2 h2]

/-- A request never sees (in its answer) nor disturbs (in the store) an entry of a different key —
    what another connection working on other keys holds. -/
theorem C14_other_keys_invisible (now : Nat) (s s' : Store) (r : Req) (h : s r.key = s' r.key) :
    (Mc.exec now s r).2 = (Mc.exec now s' r).2 ∧ (Mc.exec now s r).1 r.key = (Mc.exec now s' r).1 r.key ∧
    ∀ k, k ≠ r.key → (Mc.exec now s r).1 k = s k :=
  ⟨(Mc.exec_congr now r h).1, (Mc.exec_congr now r h).2, fun _ hk => Mc.exec_other now s r hk⟩

/-- A connection's program: its commands, one orchestrator call after the other. -/
def runCmds (p : Port) : List Cmd → OProg (List (HRes Unit))
  | [] => pure []
  | c :: cs => do
    let r ← portStep p c
    let rs ← runCmds p cs
    pure (r :: rs)

theorem runCmds_private (p : Port) (K : Bytes → Prop) : ∀ (cmds : List Cmd),
    (∀ c ∈ cmds, ∃ k, cmdKey c = some k ∧ K k) → AllReqs (Conc.FootLocal K) (runCmds p cmds)
  | [], _ => .pure _
  | c :: cs, h =>
    have ⟨k, hk, hK⟩ := h c (List.mem_cons_self ..)
    .bind ((portStep_keyLocal p c k hk).mono fun _ r hr => hr.imp_left fun (e : r.key = k) => e ▸ hK) fun _ =>
      .bind (runCmds_private p K cs fun c' hc' => h c' (List.mem_cons_of_mem _ hc')) fun _ => .pure _

/-- **No interference.**  Connections `i` with programs `progs i` whose requests stay within the
    pairwise disjoint key sets `K i`; every schedule (no locks: each connection is a stripe of its
    own, so it may start at any time; steps are single backend requests / responder calls) that
    ends with nobody running: each finished connection returned and emitted what it does when it
    runs alone from the initial state; its keys hold what it leaves when alone; keys of no
    connection are untouched. -/
theorem C14_no_interference {α : Type} (now : Nat) (progs : Nat → Prog OEv α) (K : Nat → Bytes → Prop)
    (hloc : ∀ i, AllReqs (Conc.FootLocal (K i)) (progs i)) (hdisj : ∀ i j k, K i k → K j k → i = j)
    (w : World) (sched : List Conc.Step) (c' : Conc.Conf α)
    (hex : Conc.ExecF now (fun i => { foot := K i, stripe := i, body := progs i }) (Conc.Conf.init w) sched c')
    (hquiet : ∀ i p evs, c'.ts i ≠ .running p evs) :
    (∀ i a evs, c'.ts i = .done a evs →
      a = ((progs i).eval now w []).1 ∧ evs = ((progs i).eval now w []).2.1 ∧
      ∀ k, K i k → Conc.at' c'.w k = Conc.at' ((progs i).eval now w []).2.2.1 k) ∧
    (∀ k, (∀ i, ¬ K i k) → Conc.at' c'.w k = Conc.at' w k) :=
  Conc.alone now _ hloc hdisj w sched c' hex hquiet

/-- `runCmds` on a chunked L1-only deployment. -/
def runCmdsChunked (now : Nat) : List Cmd → OProg (List (HRes Unit))
  | [] => pure []
  | c :: cs => do
    let r ← L1Only.step (Chunked.handler .l1 now) c
    let rs ← runCmdsChunked now cs
    pure (r :: rs)

def chunkFootOf (K : Bytes → Prop) : Bytes → Prop := fun x => ∃ k, K k ∧ Conc.chunkFoot k x

theorem runCmdsChunked_private (now : Nat) (K : Bytes → Prop) : ∀ (cmds : List Cmd),
    (∀ c ∈ cmds, ∃ k, cmdKey c = some k ∧ K k) → AllReqs (Conc.FootLocal (chunkFootOf K)) (runCmdsChunked now cmds)
  | [], _ => .pure _
  | c :: cs, h =>
    have ⟨k, hk, hK⟩ := h c (List.mem_cons_self ..)
    .bind ((Conc.l1only_chunked_footLocal now c k hk).mono fun _ _ hr => hr.imp_left fun hx => ⟨k, hK, hx⟩) fun _ =>
      .bind (runCmdsChunked_private now K cs fun c' hc' => h c' (List.mem_cons_of_mem _ hc')) fun _ => .pure _

/-- **No interference with a chunked L1** (L1-only deployment): `C14_no_interference` for
    connections whose commands are single-key commands on pairwise disjoint sets `K i` of client
    keys, although every command is many backend requests on derived entries (`<key>-meta`,
    `<key>-<n>`); the keys of connection `i` are the backend entries `chunkFootOf (K i)`. -/
theorem C14_no_interference_chunked (now : Nat) (cmds : Nat → List Cmd) (K : Nat → Bytes → Prop)
    (hpriv : ∀ i, ∀ c ∈ cmds i, ∃ k, cmdKey c = some k ∧ K i k) (hdisj : ∀ i j k, K i k → K j k → i = j)
    (w : World) (sched : List Conc.Step) (c' : Conc.Conf (List (HRes Unit)))
    (hex : Conc.ExecF now (fun i => { foot := chunkFootOf (K i), stripe := i, body := runCmdsChunked now (cmds i) })
      (Conc.Conf.init w) sched c')
    (hquiet : ∀ i p evs, c'.ts i ≠ .running p evs) :
    (∀ i a evs, c'.ts i = .done a evs →
      a = ((runCmdsChunked now (cmds i)).eval now w []).1 ∧ evs = ((runCmdsChunked now (cmds i)).eval now w []).2.1 ∧
      ∀ x, chunkFootOf (K i) x → Conc.at' c'.w x = Conc.at' ((runCmdsChunked now (cmds i)).eval now w []).2.2.1 x) ∧
    (∀ x, (∀ i, ¬ chunkFootOf (K i) x) → Conc.at' c'.w x = Conc.at' w x) :=
  C14_no_interference now (fun i => runCmdsChunked now (cmds i)) (fun i => chunkFootOf (K i))
    (fun i => runCmdsChunked_private now (K i) (cmds i) (hpriv i))
    (fun i j x ⟨k, hk, hx⟩ ⟨k', hk', hx'⟩ => hdisj i j k hk (Conc.chunkFoot_disjoint k k' x hx hx' ▸ hk'))
    w sched c' hex hquiet

/-- Connection `i` deletes the one-byte key `[i]`, on a stripe of its own. -/
def exThreads : Nat → Conc.ThreadF (List (HRes Unit)) :=
  fun i => { foot := fun k => k = [i.toUInt8], stripe := i, body := runCmds .main [.delete { key := [i.toUInt8] }] }

/-- Non-vacuity: without locks two connections may both be running (the second start is admitted
    while the first is inside its program). -/
example : ∀ c1, Conc.Step1F 7 exThreads (Conc.Conf.init {}) (.acq 0) c1 → ∃ c2, Conc.Step1F 7 exThreads c1 (.acq 1) c2 := by
  intro c1 h1
  cases h1 with
  | acq _ _ _ =>
    refine ⟨_, Conc.Step1F.acq _ 1 ?_ ?_⟩
    · rw [Conc.set_other _ _ _ _ (by decide)]; rfl
    · intro j p evs hj
      by_cases hj0 : j = 0
      · subst hj0; decide
      · rw [Conc.set_other _ _ _ _ hj0] at hj; cases hj

end Rend.Props.C14
