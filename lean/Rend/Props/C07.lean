/-
  C07 — Wire decoding is faithful, exact and independent of packet boundaries.
-/
import Rend.Proofs.BinParseLemmas
import Rend.Wire.TextParse
import Rend.Proofs.TextLemmas

namespace Rend.Props.C07
open Rend Rend.Wire

/-- What the binary wire format carries of a store request: append/prepend have no extras. -/
def storeNorm (k : SetKind) (c : SetCmd) : SetCmd :=
  match k with
  | .append | .prepend => { c with flags := 0, exptime := 0 }
  | _ => c

/-- Every store request (set/add/replace/append/prepend, quiet or not; any key up to 65535 bytes,
    any data with 8+key+data < 2^32, all 32-bit flags/TTL/opaque values) decodes to exactly what
    was sent, consuming exactly its own bytes. -/
theorem C07_bin_store (k : SetKind) (c : SetCmd) (rest : Bytes) (hk : c.key.length < 65536)
    (hlen : 8 + c.key.length + c.data.length < 4294967296) (hf : c.flags < 4294967296)
    (he : c.exptime < 4294967296) (ho : c.opq < 4294967296) :
    binParse (encodeBin (.store k c) ++ rest) =
      { cmd := some (.store k (storeNorm k c)), rt := k.reqType, rest := rest,
        alloc := (match k with | .append | .prepend => 0 | _ => 8) + c.key.length + c.data.length } := by
  -- `encodeBin` and `dispatch_store` branch on `k`; within a branch the body parser's lemma is the goal
  cases k <;> simp only [encodeBin, storeNorm, Nat.zero_add, List.append_assoc] <;>
    rw [binParse_header (storeOp_lt _ _) hk (by decide) (by omega) ho, dispatch_store]
  · exact parseSet_ok hlen hf he
  · exact parseSet_ok hlen hf he
  · exact parseSet_ok hlen hf he
  · exact parsePend_ok (by omega)
  · exact parsePend_ok (by omega)

theorem C07_bin_delete (c : KeyCmd) (rest : Bytes) (hk : c.key.length < 65536) (ho : c.opq < 4294967296) :
    binParse (encodeBin (.delete c) ++ rest) =
      { cmd := some (.delete { key := c.key, opq := c.opq }), rt := .delete, rest := rest, alloc := c.key.length } := by
  simp only [encodeBin, List.append_assoc]
  rw [binParse_header (by decide) hk (by decide) (by omega) ho, dispatch_delete]
  exact parseKeyOnly_ok

theorem C07_bin_touch (c : KeyCmd) (rest : Bytes) (hk : c.key.length < 65536) (ho : c.opq < 4294967296)
    (he : c.exptime < 4294967296) :
    binParse (encodeBin (.touch c) ++ rest) =
      { cmd := some (.touch { key := c.key, exptime := c.exptime, opq := c.opq }), rt := .touch, rest := rest,
        alloc := 4 + c.key.length } := by
  simp only [encodeBin, List.append_assoc]
  rw [binParse_header (by decide) hk (by decide) (by omega) ho, dispatch_touch]
  exact parseExpKey_ok he

theorem C07_bin_gat (c : KeyCmd) (rest : Bytes) (hk : c.key.length < 65536) (ho : c.opq < 4294967296)
    (he : c.exptime < 4294967296) :
    binParse (encodeBin (.gat c) ++ rest) =
      { cmd := some (.gat { key := c.key, exptime := c.exptime, opq := c.opq }), rt := .gat, rest := rest,
        alloc := 4 + c.key.length } := by
  simp only [encodeBin, List.append_assoc]
  rw [binParse_header (by decide) hk (by decide) (by omega) ho, dispatch_gat]
  exact parseExpKey_ok he

theorem C07_bin_simple (o : Nat) (rest : Bytes) (ho : o < 4294967296) :
    binParse (encodeBin (.noop o) ++ rest) = { cmd := some (.noop o), rt := .noop, rest := rest } ∧
    binParse (encodeBin (.version o) ++ rest) = { cmd := some (.version o), rt := .version, rest := rest } ∧
    binParse (encodeBin (.stat o) ++ rest) = { cmd := some (.stat o), rt := .stat, rest := rest } ∧
    (∀ q, binParse (encodeBin (.quit o q) ++ rest) = { cmd := some (.quit o q), rt := .quit, rest := rest }) := by
  -- `dispatch` on a literal opcode computes to the stated result
  refine ⟨?_, ?_, ?_, fun q => ?_⟩
  · exact binParse_bare Gen.binprot_OpcodeNoop o rest (by decide) ho
  · exact binParse_bare Gen.binprot_OpcodeVersion o rest (by decide) ho
  · exact binParse_bare Gen.binprot_OpcodeStat o rest (by decide) ho
  · cases q
    · exact binParse_bare Gen.binprot_OpcodeQuit o rest (by decide) ho
    · exact binParse_bare Gen.binprot_OpcodeQuitQ o rest (by decide) ho

def GetKeyOK (g : GetKey) : Prop := g.key.length < 65536 ∧ g.opq < 4294967296

/-- `dispatch` gives the batch loop one unit of fuel per byte after the first header, and one more;
    `htl` leaves a unit for the header that closes the batch in `tl` even when the run is one get with
    an empty key. -/
theorem binParse_quiets (k : GetKey) (ks : List GetKey) (hks : ∀ k' ∈ k :: ks, GetKeyOK k' ∧ k'.quiet = true)
    (tl : Bytes) (htl : 1 ≤ tl.length) :
    ∃ fuel a, binParse (encGetQs Gen.binprot_OpcodeGetQ (k :: ks) ++ tl) =
      batchRes .get .get (readBatchS Gen.binprot_OpcodeGetQ Gen.binprot_OpcodeGet (fuel + 1) tl (k :: ks) a) := by
  obtain ⟨⟨hk, ho⟩, -⟩ := hks k List.mem_cons_self
  obtain ⟨fuel, hfuel⟩ : ∃ fuel, (k.key ++ (encGetQs Gen.binprot_OpcodeGetQ ks ++ tl)).length + 1 =
      fuel + 1 + (k :: ks).length := by
    have := encGetQs_length_ge Gen.binprot_OpcodeGetQ ks
    refine ⟨(k.key ++ (encGetQs Gen.binprot_OpcodeGetQ ks ++ tl)).length - (k :: ks).length, ?_⟩
    simp only [List.length_append, List.length_cons]
    omega
  obtain ⟨a, ha⟩ := readBatchS_quiets Gen.binprot_OpcodeGetQ Gen.binprot_OpcodeGet (by decide) tl (k :: ks) hks
    (fuel + 1) [] 0
  refine ⟨fuel, a, ?_⟩
  rw [List.nil_append] at ha
  rw [← ha, encGetQs, List.append_assoc, List.append_assoc,
    binParse_header (by decide) hk (by decide) (Nat.lt_trans hk (by decide)) ho, dispatch_getQ, hfuel,
    readBatchS_reqHeader (by decide) hk (by decide) (Nat.lt_trans hk (by decide)) ho]

/-- Wire form of a get batch: every key but possibly the last is quiet; the batch is closed by a
    plain get of the last key, or by a noop when the last key is quiet too. -/
structure BatchOK (g : GetCmd) : Prop where
  keysOK : ∀ k ∈ g.keys, GetKeyOK k
  noopOK : g.noopOpaque < 4294967296
  nonempty : g.keys ≠ []
  shape : if g.noopEnd then (∀ k ∈ g.keys, k.quiet = true)
          else (∀ k ∈ g.keys.dropLast, k.quiet = true) ∧ (∀ l, g.keys.getLast? = some l → l.quiet = false) ∧ g.noopOpaque = 0

/-- Every batch of quiet gets closed by a get or a noop decodes to exactly the keys, opaques and
    quiet flags that were sent, consuming exactly its own bytes. -/
theorem C07_bin_get_batch (g : GetCmd) (rest : Bytes) (hg : BatchOK g) :
    ∃ a, binParse (encodeBin (.get g) ++ rest) = { cmd := some (.get g), rt := .get, rest := rest, alloc := a } := by
  obtain ⟨hkeys, hnoop, hne, hshape⟩ := hg
  obtain ⟨keys, nq, ne⟩ := g
  simp only at hkeys hnoop hne hshape
  cases ne with
  | true =>
    -- GETQ* NOOP
    simp only [if_true] at hshape
    obtain ⟨k, ks, rfl⟩ := List.exists_cons_of_ne_nil hne
    obtain ⟨fuel, a, h⟩ := binParse_quiets k ks (fun k' hk' => ⟨hkeys k' hk', hshape k' hk'⟩)
      (reqHeader Gen.binprot_OpcodeNoop 0 0 0 nq ++ rest) (by rw [List.length_append, reqHeader_length]; omega)
    refine ⟨a, ?_⟩
    simp only [encodeBin, if_true, List.append_assoc]
    rw [h, readBatchS_noop _ _ _ (by decide) (by decide) nq hnoop]
    rfl
  | false =>
    -- GETQ* GET: the last key is the plain get
    simp only [Bool.false_eq_true, if_false] at hshape
    obtain ⟨hq, hlq, rfl⟩ := hshape
    obtain ⟨l, hl⟩ : ∃ l, keys.getLast? = some l := ⟨_, List.getLast?_eq_some_getLast hne⟩
    obtain ⟨dl, rfl⟩ := List.getLast?_eq_some_iff.mp hl
    rw [List.dropLast_concat] at hq
    obtain ⟨hlk, hlo⟩ := hkeys l (by simp)
    simp only [encodeBin, Bool.false_eq_true, if_false, hl, List.dropLast_concat, List.append_assoc]
    cases dl with
    | nil =>
      refine ⟨l.key.length, ?_⟩
      rw [encGetQs, List.nil_append,
        binParse_header (by decide) hlk (by decide) (Nat.lt_trans hlk (by decide)) hlo,
        dispatch_get, parseKeyOnly_ok, ← hlq l hl]
      rfl
    | cons k ks =>
      obtain ⟨fuel, a, h⟩ := binParse_quiets k ks
        (fun k' hk' => ⟨hkeys k' (List.mem_append_left _ hk'), hq k' hk'⟩)
        (reqHeader Gen.binprot_OpcodeGet l.key.length 0 l.key.length l.opq ++ (l.key ++ rest))
        (by rw [List.length_append, reqHeader_length]; omega)
      refine ⟨a + l.key.length, ?_⟩
      rw [h, readBatchS_get _ _ _ (by decide) (by decide) l hlk hlo (hlq l hl)]
      rfl

/-- Every text store request (key of printable bytes, arbitrary data bytes — CR, LF, 0x80 included,
    since the data block is length-delimited — all 32-bit flags/TTL/length values) decodes to exactly
    what was sent, consuming exactly its own bytes. -/
theorem C07_text_store (k : SetKind) (c : SetCmd) (rest : Bytes)
    (hkey : ∀ b ∈ c.key, Printable b) (hf : c.flags < 4294967296) (he : c.exptime < 4294967296)
    (hl : c.data.length < 4294967296) :
    textParse (encodeText (.store k c) ++ rest) =
      { cmd := some (.store k { key := c.key, flags := c.flags, exptime := c.exptime, data := c.data }),
        rt := k.reqType, rest := rest, alloc := c.data.length } := by
  obtain ⟨line, h1, h2⟩ := readLine_spaced (storeWord k)
      [c.key, Bytes.decDigits c.flags, Bytes.decDigits c.exptime, Bytes.decDigits c.data.length] (c.data ++ 13 :: 10 :: rest)
    (by simp only [List.mem_cons, List.not_mem_nil, or_false, forall_eq_or_imp, forall_eq]
        exact ⟨(storeWord_ok k).2, hkey, digit_printable _, digit_printable _, digit_printable _⟩)
    (storeWord_ok k).1 (by simpa using Bytes.decDigits_ne_nil _)
  have henc : encodeText (.store k c) ++ rest = spaced (storeWord k)
      [c.key, Bytes.decDigits c.flags, Bytes.decDigits c.exptime, Bytes.decDigits c.data.length] ++
        13 :: 10 :: (c.data ++ 13 :: 10 :: rest) := by
    simp [encodeText, sp, spaced]
  rw [henc]
  simp only [textParse, h1, h2]
  exact (storeWord_chain k (fun k => textSet k _ _) _).trans
    (textSet_ok k (storeWord k) c.key c.data rest c.flags c.exptime hf he hl)

theorem C07_text_get (g : GetCmd) (rest : Bytes) (hne : g.keys ≠ [])
    (hk : ∀ k ∈ g.keys, k.key ≠ [] ∧ ∀ b ∈ k.key, Printable b) :
    textParse (encodeText (.get g) ++ rest) =
      { cmd := some (.get { keys := g.keys.map fun k => { key := k.key } }), rt := .get, rest := rest } := by
  obtain ⟨k, ks, hks⟩ := List.exists_cons_of_ne_nil hne
  obtain ⟨line, h1, h2⟩ := readLine_spaced wGet (g.keys.map (·.key)) rest
    (by simp only [List.mem_cons, List.mem_map, forall_eq_or_imp]
        exact ⟨(commandWord_ok wGet (by decide)).2, fun v ⟨k, hkm, hv⟩ => hv ▸ (hk k hkm).2⟩)
    (by decide)
    (fun z hz => by
      -- every word of the line is non-empty
      rcases List.mem_cons.mp (List.mem_of_getLast? hz) with rfl | hz
      · decide
      · obtain ⟨k', hk', rfl⟩ := List.mem_map.mp hz
        exact (hk k' hk').1)
  have henc : encodeText (.get g) ++ rest = spaced wGet (g.keys.map (·.key)) ++ 13 :: 10 :: rest := by
    simp [encodeText, sp, spaced, List.flatMap_map]
  rw [henc]
  simp only [textParse, h1, h2]
  -- the command word is a literal: the chain of word tests computes
  show (if (wGet :: g.keys.map (·.key)).length < 2 then _ else _) = _
  rw [if_neg (by simp [hks]), List.tail_cons, List.map_map]
  rfl

theorem C07_text_delete (c : KeyCmd) (rest : Bytes) (hne : c.key ≠ []) (hkey : ∀ b ∈ c.key, Printable b) :
    textParse (encodeText (.delete c) ++ rest) = { cmd := some (.delete { key := c.key }), rt := .delete, rest := rest } := by
  obtain ⟨line, h1, h2⟩ := readLine_spaced wDelete [c.key] rest
    (by simp only [List.mem_cons, List.not_mem_nil, or_false, forall_eq_or_imp, forall_eq]
        exact ⟨(commandWord_ok wDelete (by decide)).2, hkey⟩)
    (by decide) (by simpa using hne)
  have henc : encodeText (.delete c) ++ rest = spaced wDelete [c.key] ++ 13 :: 10 :: rest := by
    simp [encodeText, sp, spaced]
  rw [henc]
  simp only [textParse, h1, h2]
  rfl

theorem C07_text_touch (c : KeyCmd) (rest : Bytes) (hkey : ∀ b ∈ c.key, Printable b) (he : c.exptime < 4294967296) :
    textParse (encodeText (.touch c) ++ rest) =
      { cmd := some (.touch { key := c.key, exptime := c.exptime }), rt := .touch, rest := rest } := by
  obtain ⟨line, h1, h2⟩ := readLine_spaced wTouch [c.key, Bytes.decDigits c.exptime] rest
    (by simp only [List.mem_cons, List.not_mem_nil, or_false, forall_eq_or_imp, forall_eq]
        exact ⟨(commandWord_ok wTouch (by decide)).2, hkey, digit_printable _⟩)
    (by decide) (by simpa using Bytes.decDigits_ne_nil _)
  have henc : encodeText (.touch c) ++ rest = spaced wTouch [c.key, Bytes.decDigits c.exptime] ++ 13 :: 10 :: rest := by
    simp [encodeText, sp, spaced]
  rw [henc]
  simp only [textParse, h1, h2]
  show (match parseUint32 (trimSpace (Bytes.decDigits c.exptime)) with | some e => _ | none => _) = _
  rw [parseUint32_trim_decDigits _ he]

def parseMany (parse : Bytes → PRes) : Nat → Bytes → List Cmd
  | 0, _ => []
  | fuel + 1, inp =>
    if inp.isEmpty then []
    else match (parse inp).cmd with
      | some c => c :: parseMany parse fuel (parse inp).rest
      | none => []

/-- If every single request round-trips (whatever follows it), every pipeline of requests decodes to
    the same sequence.  Instantiated for binary store requests only (`C07_pipeline_bin_store`). -/
theorem C07_pipeline (parse : Bytes → PRes) (enc : Cmd → Bytes) (norm : Cmd → Cmd) (WF : Cmd → Prop)
    (hrt : ∀ r rest, WF r → (parse (enc r ++ rest)).cmd = some (norm r) ∧ (parse (enc r ++ rest)).rest = rest)
    (hne : ∀ r, WF r → enc r ≠ []) :
    ∀ (rs : List Cmd), (∀ r ∈ rs, WF r) → ∀ fuel, rs.length ≤ fuel →
      parseMany parse fuel (rs.flatMap enc) = rs.map norm := by
  intro rs
  induction rs with
  | nil => intro _ fuel _; cases fuel <;> rfl
  | cons r rs ih =>
    intro hwf fuel hfuel
    obtain ⟨f, rfl⟩ : ∃ f, fuel = f + 1 := ⟨fuel - 1, by rw [List.length_cons] at hfuel; omega⟩
    have hr := hwf r List.mem_cons_self
    obtain ⟨h1, h2⟩ := hrt r (rs.flatMap enc) hr
    have hnemp : (enc r ++ rs.flatMap enc).isEmpty = false := by simp [hne r hr]
    rw [List.flatMap_cons, parseMany, hnemp, h1, h2,
      ih (fun r' hr' => hwf r' (List.mem_cons_of_mem _ hr')) f (Nat.le_of_succ_le_succ hfuel)]
    rfl

theorem C07_pipeline_bin_store (rs : List (SetKind × SetCmd))
    (hwf : ∀ p ∈ rs, p.2.key.length < 65536 ∧ 8 + p.2.key.length + p.2.data.length < 4294967296 ∧
      p.2.flags < 4294967296 ∧ p.2.exptime < 4294967296 ∧ p.2.opq < 4294967296) :
    parseMany binParse rs.length ((rs.map fun p => Cmd.store p.1 p.2).flatMap encodeBin) =
      rs.map fun p => Cmd.store p.1 (storeNorm p.1 p.2) := by
  have := C07_pipeline binParse encodeBin (fun c => match c with | .store k s => .store k (storeNorm k s) | c => c)
    (fun c => ∃ p ∈ rs, c = .store p.1 p.2)
    (by
      rintro _ rest ⟨p, hp, rfl⟩
      obtain ⟨a, b, c, d, e⟩ := hwf p hp
      rw [C07_bin_store p.1 p.2 rest a b c d e]
      exact ⟨rfl, rfl⟩)
    (by
      rintro _ ⟨p, -, rfl⟩
      cases p.1 <;> simp [encodeBin, reqHeader])
    (rs.map fun p => Cmd.store p.1 p.2) (fun r hr => (List.mem_map.mp hr).imp fun p hp => ⟨hp.1, hp.2.symm⟩)
    rs.length (by simp)
  rw [this, List.map_map]
  rfl

/-- `CanParse` of the two protocols. -/
def binCanParse (first : UInt8) : Bool := first.toNat == Gen.binprot_MagicRequest
def textCanParse (first : UInt8) : Bool := decide (97 ≤ first.toNat ∧ first.toNat ≤ 122)

/-- `ListenAndServe` walks the protocols in order [binary, text] WITHOUT stopping at the first match
    and falls back to the last one. -/
def chooseProto (first : UInt8) : Bool × Bool :=   -- (uses binary, matched)
  let m1 := binCanParse first
  let m2 := textCanParse first
  if m2 then (false, true) else if m1 then (true, true) else (false, false)

/-- The first byte decides: 0x80 means binary, a lower-case letter means text; the two tests are
    disjoint, so the missing `break` in the protocol loop cannot matter. -/
theorem C07_first_byte (b : UInt8) :
    (b = 0x80 → chooseProto b = (true, true)) ∧
    (97 ≤ b.toNat ∧ b.toNat ≤ 122 → chooseProto b = (false, true)) ∧
    ¬ (binCanParse b = true ∧ textCanParse b = true) := by
  refine ⟨?_, ?_, ?_⟩
  · intro h; subst h; decide
  · intro h; simp [chooseProto, textCanParse, h]
  · simp [binCanParse, textCanParse, Gen.binprot_MagicRequest]; omega

/-- `io.ReadAtLeast` over a connection that delivers its bytes in arbitrary segments: the bytes
    obtained (and what remains) depend only on the concatenation. -/
def readSeg : Nat → List Bytes → Option (Bytes × List Bytes)
  | 0, segs => some ([], segs)
  | _ + 1, [] => none
  | n + 1, s :: segs =>
    if s.length ≤ n + 1 then
      match readSeg (n + 1 - s.length) segs with
      | some (b, r) => some (s ++ b, r)
      | none => none
    else some (s.take (n + 1), s.drop (n + 1) :: segs)
termination_by n segs => segs.length
decreasing_by all_goals simp_wf <;> omega

theorem C07_segmentation : ∀ (n : Nat) (segs : List Bytes),
    (readSeg n segs).map (fun p => (p.1, p.2.flatten)) = readN n segs.flatten := by
  intro n segs
  induction segs generalizing n with
  | nil => cases n <;> simp [readSeg, readN]
  | cons s segs ih =>
    cases n with
    | zero => simp [readSeg, readN]
    | succ n =>
      rw [readSeg, List.flatten_cons]
      split
      · rename_i hle
        rw [readN_append_of_le s _ hle, ← ih]
        cases readSeg (n + 1 - s.length) segs <;> rfl
      · rename_i hgt
        rw [readN_append_of_ge s _ (by omega)]
        rfl

end Rend.Props.C07
