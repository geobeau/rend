/-
  C13 — The batching pool survives loss of its backend connections.

  The message-level part: wherever the reply stream of a batch is cut, what HAS been routed went
  to its owners only, what has not is exactly the set of unanswered entries, and the retry
  bookkeeping never loses or duplicates a key.  The retry markers go by the reply counts
  (`recoveryMarkers`), which no theorem relates to the unanswered entries.  The goroutine hand-off
  (reader -> recovery -> reconnect with back-off -> reader) is exercised against the real code,
  not modelled.
-/
import Rend.Proofs.BatchedLemmas

namespace Rend.Props.C13
open Rend Rend.Batched

/-- **A cut at any point of the reply stream**: any sequence of distinct replies to entries of the
    batch in flight — any order, any number, so every prefix of every reply order — is routed
    without an out-of-sync panic, each reply to the entry that owns its opaque; the entries left
    in the table are exactly those not answered. -/
theorem C13_cut_anywhere (base : Nat) (rs : List BReq) (hspan : span rs < 4294967296) (counts : List (Nat × Nat))
    (ws : List Nat) (hnd : ws.Nodup) (hsub : ∀ w ∈ ws, w ∈ (assign (w32 base) rs).2.1.map (·.wire)) :
    ∃ s' hs, deliverAll ⟨(assign (w32 base) rs).2.1, counts⟩ ws = some (s', hs) ∧ hs.map (·.wire) = ws ∧
      (∀ h ∈ hs, h ∈ (assign (w32 base) rs).2.1) ∧
      (∀ w, w ∈ s'.table.map (·.wire) ↔ (w ∈ (assign (w32 base) rs).2.1.map (·.wire) ∧ w ∉ ws)) :=
  deliverAll_ok ws ⟨(assign (w32 base) rs).2.1, counts⟩ (wires_nodup base rs hspan) hnd hsub

/-- The recovery step: the channels of the abandoned batch that are still owed replies get the retry
    marker, those fully served get none. -/
def recoveryMarkers (counts : List (Nat × Nat)) : List Nat := (counts.filter (fun c => c.2 > 0)).map (·.1)

theorem C13_markers (counts : List (Nat × Nat)) (ch : Nat) :
    ch ∈ recoveryMarkers counts ↔ ∃ n, (ch, n) ∈ counts ∧ n > 0 := by
  simp [recoveryMarkers]

/-- **Retries never present a partial answer as complete, nor duplicate a key**: after any number
    of tries, answered ++ still-to-ask is a permutation of what was requested
    (`C06_one_reply_per_key`); when nothing remains, the answers are the keys requested. -/
theorem C13_retry_bookkeeping (requested answered : List BKey) (h : AnswersOf requested answered) :
    (answered ++ Batched.remaining requested answered).Perm requested ∧
    (Batched.remaining requested answered = [] → answered.Perm requested) := by
  have hp := remaining_perm answered requested h
  exact ⟨hp, fun he => by rwa [he, List.append_nil] at hp⟩

end Rend.Props.C13
