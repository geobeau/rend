/-
  C18 — Metrics report what happened.

  `lzcntPortable`, `getBucket`, `bucketValues`, `powerOf4Index` and `lzcntAsm` are REGENERATED
  from metrics/lzcnt.go, metrics/histograms.go and metrics/lzcnt_amd64.s on every run.
-/
import Rend.Gen.Pure
import Rend.Gen.Asm
import Rend.Metrics.Hist
import Rend.Proofs.AsmLemmas
import Rend.Proofs.Lzcnt
import Rend.Proofs.Buckets
import Rend.Proofs.Hist

namespace Rend.Props.C18
open Rend Rend.Gen Rend.Metrics

/-- The portable routine equals the model on every 64-bit input. -/
theorem C18_lzcnt_portable (x : BitVec 64) : lzcntPortable x = lzcntModel x := by
  by_cases hx : x = 0#64
  · subst hx; decide
  · apply BitVec.eq_of_toNat_eq
    rw [lzcntPortable_toNat x hx, (lzcntModel_spec x hx).1]

/-- The amd64 routine (BSRQ leaves its destination undefined on a zero source: `undef` is
    arbitrary) returns the same value on every input. -/
theorem C18_lzcnt_asm (undef x : BitVec 64) : runFn lzcntAsm undef x = some (lzcntModel x) := by
  unfold runFn
  show Option.map _ (run lzcntAsm undef 10 0 { arg := x }) = _
  by_cases hx : x = 0#64
  · rw [run_bsrq_zero lzcntAsm undef 9 0 { arg := x } (.arg "x") (.reg "AX") rfl hx]
    rw [run_jz_taken lzcntAsm undef 8 1 _ "zero" 6 rfl rfl rfl]
    rw [run_label lzcntAsm undef 7 6 _ "zero" rfl]
    rw [run_movq lzcntAsm undef 6 7 _ (.imm 64) .result rfl]
    rw [run_ret lzcntAsm undef 5 8 _ rfl]
    show some 64#64 = _
    rw [hx]
    rfl
  · rw [run_bsrq_nz lzcntAsm undef 9 0 { arg := x } (.arg "x") (.reg "AX") rfl hx]
    rw [run_jz_not lzcntAsm undef 8 1 _ "zero" rfl rfl]
    rw [run_subq lzcntAsm undef 7 2 _ (.imm 63) (.reg "AX") rfl]
    rw [run_negq lzcntAsm undef 6 3 _ (.reg "AX") rfl]
    rw [run_movq lzcntAsm undef 5 4 _ (.reg "AX") .result rfl]
    rw [run_ret lzcntAsm undef 4 5 _ rfl]
    show some (-(bsr x - 63#64)) = _
    obtain ⟨hm, hl⟩ := lzcntModel_spec x hx
    congr 1
    apply BitVec.eq_of_toNat_eq
    rw [hm]
    simp only [BitVec.toNat_neg, BitVec.toNat_sub, toNat_bsr, BitVec.toNat_ofNat]
    omega

/-- Hence the assembly routine agrees with the portable one on every input. -/
theorem C18_lzcnt_agree (undef x : BitVec 64) : runFn lzcntAsm undef x = some (lzcntPortable x) := by
  rw [C18_lzcnt_asm, C18_lzcnt_portable]

/-- Clearing the lowest bit (`x &^ 1`, the other way the source may round the shift down to even). -/
theorem andnot_one : ∀ r : Fin 64, (BitVec.ofNat 64 r.val &&& ~~~(1#64)) = BitVec.ofNat 64 (r.val - r.val % 2) := by
  decide +kernel

theorem getBucket_formula (n : BitVec 64) (r : Nat) (hr4 : 4 ≤ r) (hr : r ≤ 63)
    (h1 : 2 ^ r ≤ n.toNat) (h2 : n.toNat < 2 ^ (r + 1)) :
    (getBucket n).toNat =
      min 275 ((n.toNat - 2 ^ (r - r % 2)) / (2 ^ (r - r % 2) / 3) + powerOf4Index.getD ((r - r % 2) / 2) 0 + 1) := by
  have h16 : 2 ^ 4 ≤ 2 ^ r := Nat.pow_le_pow_right (by decide) hr4
  have hne : n.toNat ≠ 0 := by omega
  have hnz : n ≠ 0#64 := fun h => hne (by simp [h])
  have hgt : ¬ (n ≤ 15#64) := by rw [BitVec.le_def]; show ¬ n.toNat ≤ 15; omega
  have hlo : 2 ^ 4 ≤ 2 ^ (r - r % 2) := Nat.pow_le_pow_right (by decide) (by omega)
  have hhi : 2 ^ (r - r % 2) ≤ n.toNat := Nat.le_trans (Nat.pow_le_pow_right (by decide) (Nat.sub_le ..)) h1
  -- one equation for each variable of `getBucket`, in its order: `r` is the position of the top bit,
  -- `r - r % 2` the even shift, `2 ^ (r - r % 2)` the power of four below `n`
  have rshift : 64#64 - lzcntModel n - 1#64 = BitVec.ofNat 64 r :=
    sub_lzcnt_sub_one hr (by rw [(lzcntModel_spec n hnz).1, (Nat.log2_eq_iff hne).mpr ⟨h1, h2⟩])
  have rshift_toNat : (BitVec.ofNat 64 r).toNat = r := toNat_ofNat_of_lt (by omega)
  have lshift_toNat : (BitVec.ofNat 64 (r - r % 2)).toNat = r - r % 2 := toNat_ofNat_of_lt (by omega)
  have prevPowerOf4 : (1#64 <<< (r - r % 2)).toNat = 2 ^ (r - r % 2) := one_shiftLeft_toNat (by omega)
  have offset : ((n - 1#64 <<< (r - r % 2)) / (1#64 <<< (r - r % 2) / 3#64)).toInt =
      ((n.toNat - 2 ^ (r - r % 2)) / (2 ^ (r - r % 2) / 3) : Nat) := by
    rw [offset_toInt n _ (by omega) (by omega), prevPowerOf4]
  have index : ((BitVec.ofNat 64 (r - r % 2) / 2#64).toNat : Int).toNat = (r - r % 2) / 2 := half_toNat (by omega)
  unfold getBucket
  rw [if_neg (by simpa using hgt)]
  dsimp only
  rw [rshift]
  -- two alternatives: the regenerated source may round the shift down to even by `if odd then - 1`
  -- or by `&^ 1`, and either is covered.  /repo has the first; the second (with `andnot_one`) is taken
  -- only under the harmless rewrite /verif/seeded/refactor_misc, on which the check is to stay quiet
  first
    | rw [dec_if_odd ⟨r, by omega⟩]
    | simp only [andnot_one ⟨r, by omega⟩]
  rw [rshift_toNat, lshift_toNat, shr_top n r h1 h2, offset, index]
  exact bucket_pos _ _

theorem getBucket_eq (n : BitVec 64) : (getBucket n).toNat = bucketIdx n.toNat := by
  unfold bucketIdx bandStep band
  split
  next h => simp [getBucket, BitVec.le_def, show n.toNat ≤ 15 by omega]
  next h =>
    have hne : n.toNat ≠ 0 := by omega
    have hr4 : 4 ≤ n.toNat.log2 := (Nat.le_log2 hne).mpr (by omega)
    have hr : n.toNat.log2 < 64 := (Nat.log2_lt hne).mpr n.isLt
    rw [getBucket_formula n _ hr4 (by omega) (Nat.log2_self_le hne) Nat.lt_log2_self, two_pow_even,
      show (n.toNat.log2 - n.toNat.log2 % 2) / 2 = n.toNat.log2 / 2 by omega, powerOf4Index_getD (by omega) (by omega)]
    generalize (n.toNat - _) / _ = q
    omega

/-- The upper bound of the bucket an observation is counted in is never below the observation
    (values up to 2^63 − 1). -/
theorem C18_bucket_upper (n : BitVec 64) (hn : n.toNat ≤ 2 ^ 63 - 1) :
    n.toNat ≤ bucketValues.getD (getBucket n).toNat 0 := by
  rw [getBucket_eq, bucketValues_getD (Nat.lt_succ_of_le (bucketIdx_le _))]
  exact le_bucketValue hn

/-- The bucket an observation is counted in is a non-decreasing function of the value. -/
theorem C18_bucket_mono (n m : BitVec 64) (h : n.toNat ≤ m.toNat) :
    (getBucket n).toNat ≤ (getBucket m).toNat := by
  rw [getBucket_eq, getBucket_eq]
  exact bucketIdx_mono h

/-- A counter's value is the sum of the increments (mod 2^64) … -/
theorem C18_counter_sum (incs : List (BitVec 64)) :
    counterAfter incs = incs.foldr (· + ·) 0#64 := by
  show incs.foldl (· + ·) 0#64 = _
  exact List.foldr_eq_foldl.symm

/-- … in whatever order the atomic adds are applied. -/
theorem C18_counter_order (a b : List (BitVec 64)) (h : a.Perm b) : counterAfter a = counterAfter b :=
  h.foldl_eq' (fun x _ y _ z => show z + x + y = z + y + x by ac_rfl) _

/-- The reported count equals the number of observations of the period. -/
theorem C18_hist_count (s : Bool) (h : HDat) (vs : List Nat) :
    (observeAll s h vs).count = h.count + vs.length := by
  unfold observeAll
  induction vs generalizing h with
  | nil => simp
  | cons v vs ih => simp only [List.foldl_cons, ih, observe_count, List.length_cons]; omega

theorem observe_ring_length (s : Bool) (h : HDat) (v : Nat) : (observe s h v).ring.length = h.ring.length :=
  Metrics.observe_ring_length s h v

/-- For every observation sequence of a period (any length, sampled or not, any stale ring
    contents, any sorting permutation): every reported percentile is one of the period's
    observations and lies between the reported min and max. -/
theorem C18_hist_percentiles (s : Bool) (ring : List Nat) (hr : ring.length = ringLen) (vs : List Nat)
    (hvs : ∀ v ∈ vs, v < 18446744073709551616)
    (sorted : List Nat) (hperm : sorted.Perm (usedSlice (observeAll s { ring := ring } vs)))
    (hk : (observeAll s { ring := ring } vs).kept ≠ 0) :
    ∀ p ∈ percentiles (observeAll s { ring := ring } vs) sorted,
      p ∈ vs ∧ (observeAll s { ring := ring } vs).min ≤ p ∧ p ≤ (observeAll s { ring := ring } vs).max := by
  have hne : vs ≠ [] := by rintro rfl; exact hk rfl
  obtain ⟨hmin, hmax⟩ := fresh_min_max s ring vs hne hvs
  have hinv : PeriodInv vs (observeAll s { ring := ring } vs) := by
    simpa using observeAll_inv s [] { ring := ring } vs ⟨hr, by simp⟩
  rw [hmin, hmax]
  generalize observeAll s { ring := ring } vs = h at *
  have hbounds (p : Nat) (hp : p ∈ vs) : p ∈ vs ∧ vs.min hne ≤ p ∧ p ≤ vs.max hne :=
    ⟨hp, List.min_le_of_mem hp, List.le_max_of_mem hp⟩
  intro p hp
  simp only [percentiles, if_neg hk, List.mem_map, List.mem_range] at hp
  obtain ⟨i, hi, rfl⟩ := hp
  split
  · rw [hmin]; exact hbounds _ (List.min_mem hne)
  split
  · rw [hmax]; exact hbounds _ (List.max_mem hne)
  next h20 =>
    rw [usedSlice_eq_take] at hperm
    have hpos : 0 < sorted.length := by
      rw [hperm.length_eq, List.length_take, hinv.ringLen]
      exact Nat.lt_min.mpr ⟨Nat.pos_of_ne_zero hk, by decide⟩
    have hidx := percentileIdx_lt sorted.length i hpos hi h20
    rw [List.getD_eq_getElem?_getD, List.getElem?_eq_getElem hidx]
    exact hbounds _ (hinv.slots _ (hperm.mem_iff.mp (List.getElem_mem hidx)))

/-- The first kept observation goes into slot 0 (`idx := (atomic.AddUint64(&kept, 1) - 1) & buflen`:
    the value of `kept` before the add), so three unsampled observations fill slots 0, 1, 2 over
    whatever stale values the ring held; an index taken after the add would leave slot 0 stale, among
    the slots `0 .. kept-1` that the summary sorts.  (A ring of four slots, to keep the term small.) -/
example : (observeAll false { ring := List.replicate 4 7 } [100, 200, 300]).ring.take 3 = [100, 200, 300] := by
  decide

end Rend.Props.C18
