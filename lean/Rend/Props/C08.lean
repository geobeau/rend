/-
  C08 — Reply discipline: one well-formed reply per request, one terminator per get.

  Orchestrator-level statements quantify over `Runs`: every possible behaviour of the two
  backends (answers, error statuses, lost connections) and every drawn token.
-/
import Rend.Proofs.LockedRuns
import Rend.Wire.Decode
import Rend.Wire.Respond
import Rend.Proofs.TextLemmas
import Rend.Proofs.ReplyLemmas

namespace Rend.Props.C08
open Rend Rend.Wire

/-- The facts about `LockedOrca` that the discipline depends on, read off the regenerated table:
    every keyed method locks, unlocks on every path and lets a panic through; `Get` holds the
    end-of-get marker back for all but the last key and re-panics. -/
theorem locked_facts_ok :
    (∀ n ∈ ["Set", "Add", "Replace", "Append", "Prepend", "Delete", "Touch", "Gat"],
      (lockedFact n).usesLock = true ∧ (lockedFact n).deferUnlock = true ∧ (lockedFact n).recovers = false) ∧
    ((lockedFact "Get").usesLock = true ∧ (lockedFact "Get").inlineUnlock = true ∧ (lockedFact "Get").recovers = true ∧
      (lockedFact "Get").recoverUnlocks = true ∧ (lockedFact "Get").repanics = true ∧ (lockedFact "Get").gatesGetEnd = true) ∧
    ((lockedFact "GetE").usesLock = true ∧ (lockedFact "GetE").inlineUnlock = true ∧ (lockedFact "GetE").recovers = true ∧
      (lockedFact "GetE").recoverUnlocks = true ∧ (lockedFact "GetE").repanics = true ∧ (lockedFact "GetE").gatesGetEnd = true) :=
  ⟨lockedFacts_table.1, lockedFacts_table.2 "Get" (.head _), lockedFacts_table.2 "GetE" (.tail _ (.head _))⟩

/-- **Reply discipline of every orchestrator**, for every command and every behaviour of the two
    backends: a command that returns nil has made exactly one acknowledging responder call (a get:
    its value/miss calls followed by exactly one terminator); a command that returns an error has
    made no acknowledging call and no terminator. -/
theorem C08_orca_discipline (o : OrcaKind) (h1 h2 : Handler OEv) (hs1 : SilentHandler h1) (hs2 : SilentHandler h2)
    (c : Cmd) : Shape (Disc c) (o.step h1 h2 c) :=
  Replies.shape (o.step_replies h1 h2 hs1 hs2 c)

/-- The same **under the locking wrapper** (shape of `LockedOrca` taken from the regenerated facts),
    `GetE` left out: in particular a get of n ≥ 1 keys makes exactly one terminator call, not one
    per key. -/
theorem C08_locked_discipline (bits : Nat) (wrapped : Cmd → OProg (HRes Unit))
    (hw : ∀ c, Shape (Disc c) (wrapped c)) (c : Cmd)
    (hkeys : ∀ g, c = .get g → g.keys ≠ []) (hnotE : ∀ g, c ≠ .getE g) :
    Shape (Disc c) (Locked.step bits wrapped c) := by
  obtain ⟨hsingle, hget, _⟩ := locked_facts_ok
  cases hk : c.lockKey with
  | some key =>
    obtain ⟨n, hn, e⟩ := Locked.step_keyed bits wrapped hk
    rw [e]
    exact ⟨(lockedSingle_resps _ (hsingle n hn) bits key _).mono fun res es ⟨es', hr', he⟩ => he ▸ (hw c).out res es' hr'⟩
  | none =>
    rcases Locked.step_unkeyed bits wrapped hk with ⟨g, rfl⟩ | ⟨g, rfl⟩ | e
    · exact ⟨lockedGetLoop_disc _ hget bits (fun sub => wrapped (.get sub)) (fun g' => hw (.get g')) g g.keys (hkeys g rfl)⟩
    · exact absurd rfl (hnotE g)
    · exact e ▸ hw c

theorem rd16_be16 (n : Nat) (h : n < 65536) (rest : Bytes) : Bytes.rd16 (Bytes.be16 n ++ rest) = n :=
  Bytes.rd16_be16_append n h rest

theorem rd32_be32' (n : Nat) (h : n < 4294967296) (rest : Bytes) : Bytes.rd32 (Bytes.be32 n ++ rest) = n :=
  Bytes.rd32_be32_append n h rest

/-- Bounds under which a responder event fits the wire format. -/
def EvOK : REv → Prop
  | .stored _ o _ => o < 4294967296
  | .get r => r.opq < 4294967296 ∧ r.flags < 4294967296 ∧ r.data.length + 8 < 4294967296
  | .gat r => r.opq < 4294967296 ∧ r.flags < 4294967296 ∧ r.data.length + 8 < 4294967296
  | .getE r => r.opq < 4294967296 ∧ r.flags < 4294967296 ∧ r.exptime < 4294967296 ∧ r.data.length + 8 < 4294967296
  | .getEnd o _ => o < 4294967296
  | .deleted o => o < 4294967296
  | .touched o => o < 4294967296
  | .noop o => o < 4294967296
  | .quit o _ => o < 4294967296
  | .version o => o < 4294967296
  | .stat o => o < 4294967296
  | .error o _ _ _ => o < 4294967296

def evOpq : REv → Nat
  | .stored _ o _ => o | .get r => r.opq | .gat r => r.opq | .getE r => r.opq | .getEnd o _ => o
  | .deleted o => o | .touched o => o | .noop o => o | .quit o _ => o | .version o => o | .stat o => o
  | .error o _ _ _ => o

theorem be32_len (n : Nat) : (Bytes.be32 n).length = 4 := Bytes.be32_length n

theorem respFrames_ok (e : REv) (he : EvOK e) : ∀ f ∈ respFrames e, f.OK ∧ f.opq = evOpq e := by
  intro f hf
  cases e with
  | stored k o q =>
    obtain ⟨-, hf⟩ := List.mem_ite_nil_left.mp hf
    cases List.mem_singleton.mp hf
    exact ⟨plainFrame_ok (by cases k <;> decide) he (by decide), rfl⟩
  | get r | gat r =>
    rcases mem_getFrames hf with rfl | rfl
    · exact ⟨errFrame_ok _ _ _ _ he.1, rfl⟩
    · exact ⟨hitFrame_ok (n := 8) (by decide) he.1 (by simp [be32_len]) (by decide) he.2.2, rfl⟩
  | getE r =>
    rcases mem_getFrames hf with rfl | rfl
    · exact ⟨errFrame_ok _ _ _ _ he.1, rfl⟩
    · exact ⟨hitFrame_ok (n := 8) (by decide) he.1 (by simp [be32_len]) (by decide) he.2.2.2, rfl⟩
  | getEnd o n =>
    obtain ⟨-, hf⟩ := List.mem_ite_nil_right.mp hf
    cases List.mem_singleton.mp hf
    exact ⟨plainFrame_ok (by decide) he (by decide), rfl⟩
  | quit o q =>
    obtain ⟨-, hf⟩ := List.mem_ite_nil_left.mp hf
    cases List.mem_singleton.mp hf
    exact ⟨plainFrame_ok (by decide) he (by decide), rfl⟩
  | deleted o | touched o | noop o | version o =>
    cases List.mem_singleton.mp hf
    exact ⟨plainFrame_ok (by decide) he (by decide), rfl⟩
  | stat o =>
    rcases List.mem_cons.mp hf with rfl | hf
    · exact ⟨BinFrame.mk_ok (by decide) (by decide) he (by decide) (by decide) (by decide), rfl⟩
    · cases List.mem_singleton.mp hf
      exact ⟨plainFrame_ok (by decide) he (by decide), rfl⟩
  | error o rt er q =>
    cases List.mem_singleton.mp hf
    exact ⟨errFrame_ok _ _ _ _ he, rfl⟩

theorem decodeBin_binRespond (e : REv) (he : EvOK e) : decodeBin (binRespond e) = some (respFrames e) := by
  rw [binRespond_eq]
  exact decodeBin_enc _ fun f hf => (respFrames_ok e he f hf).1

/-- **Every byte string the binary responder writes for one call is a sequence of complete,
    well-formed response frames** (at most two — the stat reply), each echoing the call's opaque,
    each with a total body length equal to extras + key + value. Quiet calls write nothing. -/
theorem C08_bin_frames (e : REv) (he : EvOK e) :
    ∃ fs, decodeBin (binRespond e) = some fs ∧ fs.length ≤ 2 ∧ ∀ f ∈ fs, f.opq = evOpq e :=
  ⟨_, decodeBin_binRespond e he, respFrames_length e, fun f hf => (respFrames_ok e he f hf).2⟩

/-- Every fixed text reply line (acknowledgements, terminator, error lines) is one CRLF-terminated
    line that decodes as exactly one item — checked over the regenerated table.  `Stat` is left out
    because its reply is not one line of the protocol: `STAT version 0.1\nEND` holds a bare LF, at
    which a client's line reader stops (the decoder of the model ends a line at CRLF only and would
    take it whole).  `Bye`, the reply to quit, is a literal of `textRespond` and not in the table. -/
theorem C08_text_fixed_lines :
    (∀ p ∈ Gen.textReplies, p.1 ≠ "Stat" → decodeText (textLine p.2.2) = some [.line p.2.2]) ∧
    (∀ e ∈ Err.all, ∃ l, textError e = l ++ crlf ∧ decodeText (textError e) = some [.line l]) := by
  constructor
  · decide
  · intro e he
    cases e <;> exact ⟨_, rfl, by decide⟩

/-- `VALUE`, the word that opens a value block. -/
def wValue : Bytes := [86, 65, 76, 85, 69]

/-- A text value block: `VALUE <key> <flags> <bytes>\r\n<data>\r\n` decodes as exactly one value
    item with the announced length, for arbitrary data bytes (CR/LF included). -/
theorem C08_text_value (r : GetResp) (hkey : ∀ b ∈ r.key, Printable b) (hf : r.flags < 4294967296)
    (hl : r.data.length < 4294967296) (hm : r.miss = false) :
    ∃ bytes, textRespond (.get r) = some bytes ∧ decodeText bytes = some [.value r.key r.flags r.data] := by
  -- the block opens with the line of the words VALUE, key, flags, length
  have hp : ∀ v ∈ [wValue, r.key, Bytes.decDigits r.flags, Bytes.decDigits r.data.length], ∀ b ∈ v, Printable b := by
    simp only [List.mem_cons, List.not_mem_nil, or_false, forall_eq_or_imp, forall_eq]
    exact ⟨by unfold Printable; decide, hkey, digit_printable _, digit_printable _⟩
  have hresp : textRespond (.get r) = some (spaced wValue [r.key, Bytes.decDigits r.flags, Bytes.decDigits r.data.length] ++
      13 :: 10 :: (r.data ++ [13, 10])) := by
    simp [textRespond, hm, spaced, crlf, wValue]
  have hcr := spaced_ne hp (d := 13) (by decide)
  have hsplit := splitSpace_spaced _ _ fun v hv b hb => (hp v hv b hb).ne (by decide)
  -- of which the decoder needs to know that it holds no CR and how it splits
  generalize spaced wValue _ = line at hresp hcr hsplit
  refine ⟨_, hresp, ?_⟩
  unfold decodeText
  generalize hfu : (line ++ 13 :: 10 :: (r.data ++ [13, 10])).length + 1 = fuel
  -- two units of fuel are used: one for the value item, one for the empty input after it
  obtain ⟨f, rfl⟩ : ∃ f, fuel = f + 2 := ⟨fuel - 2, by simp at hfu; omega⟩
  rw [show f + 2 = (f + 1) + 1 from rfl, decodeTextItems]
  simp only [takeCrlfLine_ok [] _ _ hcr, List.reverse_nil, List.nil_append, hsplit]
  simp [parseUint32_decDigits _ hf, parseUint32_decDigits _ hl, decodeTextItems, wValue]

end Rend.Props.C08
