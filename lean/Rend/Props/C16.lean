/-
  C16 — Fixed-size chunk discipline: every chunk of a key fits one slab class.

  All arithmetic below is about the REGENERATED definitions `Gen.chunkSize`, `Gen.numChunksExpr`
  and the regenerated constants; a change of a constant or of `chunkSize` in the Go source
  re-states (and may break) these theorems on the next run.
-/
import Rend.Proofs.ChunkedReqs

namespace Rend.Props.C16
open Rend Rend.Chunked

/-- The value length of every chunk entry is a function of the key length only. -/
theorem C16_same_length (k : Nat) (hk : k ≤ 250) (token data : Bytes) (i : Nat) (ht : token.length = 16) :
    (token ++ chunkPayload data (sizes k).1 i).length = (sizes k).2 := by
  rw [List.length_append, chunkPayload_length, ht, sizes_eq k hk]
  omega

/-- Backend key + entry value + 67 bytes of item overhead never exceed the 1184-byte slab budget.
    handler.go has `chunkOverhead = 67 + 4`: 67 is what memcached adds to an item, the 4 pays for the
    suffix `-NNN` of the chunk key, whence `i < 1000`.  The sum (`Gen.chunked_chunkOverhead` = 71) does not
    appear: `gen` has folded `chunkMaxSize - chunkOverhead` into the 1113 of `Gen.chunkSize`. -/
theorem C16_slab_budget (key : Bytes) (i : Nat) (hk : key.length ≤ 250) (hi : i < 1000) :
    (chunkKey key i).length + (sizes key.length).2 + 67 ≤ Gen.chunked_chunkMaxSize := by
  rw [sizes_eq _ hk, chunkKey_length]
  have := (Bytes.decDigits_length_le_iff i (k := 3) (by decide)).mpr hi
  simp only [Gen.chunked_chunkMaxSize]
  omega

/-- The metadata entry has constant size (for a 16-byte token). -/
theorem C16_meta_constant (m : Meta) (ht : m.token.length = Gen.chunked_tokenSize) :
    (encodeMeta m).length = Gen.chunked_metadataSize := by
  simp only [encodeMeta, List.length_append, Bytes.be32_length, ht]
  rfl

/-- The metadata entry, whose key carries a five-byte suffix, keeps within the same budget (67 as in
    `C16_slab_budget`). -/
theorem C16_meta_budget (key : Bytes) (hk : key.length ≤ 250) :
    (metaKey key).length + Gen.chunked_metadataSize + 67 ≤ Gen.chunked_chunkMaxSize := by
  rw [metaKey_length]
  simp only [Gen.chunked_metadataSize, Gen.chunked_chunkMaxSize]
  omega

/-- The number of chunks is the value length divided by the payload size, rounded up: the chunks cover
    the value and the last one is not empty. -/
theorem C16_num_chunks (n p : Nat) (hp : 0 < p) (hp32 : p < 4294967296) :
    (Gen.numChunksExpr (n : Int) (BitVec.ofNat 32 p)).toNat = (n + p - 1) / p ∧
    n ≤ ((n + p - 1) / p) * p ∧ ((n + p - 1) / p) * p < n + p :=
  ⟨numChunksExpr_toNat n p hp hp32, ceilDiv_mul n p hp⟩

/-- A request that stores a value stores the metadata record or a chunk of the key's fixed size
    (`_t` as in `Derived`: a predicate that `AllReqs` takes). -/
def StoreReqOK (key : Bytes) (_t : Tier) (r : Req) : Prop :=
  (r.op = .set ∨ r.op = .add ∨ r.op = .replace) →
    (r.key = metaKey key ∧ r.value.length = Gen.chunked_metadataSize) ∨
    (∃ i, r.key = chunkKey key i ∧ r.value.length = (sizes key.length).2)

/-- Every entry written by `Set`/`Add`/`Replace` through the chunked handler — whatever the backend
    answers — is the constant-size metadata entry or a chunk entry of the key's fixed size. -/
theorem C16_set_requests {ε} (t : Tier) (now : Nat) (k : SetKind) (c : SetCmd) (hk : c.key.length ≤ 250) :
    AllReqs (StoreReqOK c.key) (setCommon (ε := ε) t now k c) :=
  allReqs_setCommon t now k c fun token ht =>
    ⟨fun _ => Or.inl ⟨rfl, C16_meta_constant _ ht⟩, fun j _ => Or.inr ⟨j, rfl, C16_same_length _ hk token c.data j ht⟩⟩

/-- The same for `Append` / `Prepend` (read, then re-store under the same key) and hence for every
    store operation of the chunked handler. -/
theorem C16_store_requests {ε} (t : Tier) (now : Nat) (k : SetKind) (c : SetCmd) (hk : c.key.length ≤ 250) :
    AllReqs (StoreReqOK c.key) (Chunked.store (ε := ε) t now k c) :=
  -- the reads store nothing
  (store_sends t now k c ⟨nofun, nofun, fun _ => nofun⟩
    fun k' c' hc => hc ▸ C16_set_requests t now k' c' (hc ▸ hk)).reqs

/-- Non-vacuity: a 250-byte key still leaves a positive payload, and the budget is met with equality
    for three-digit chunk numbers. -/
example : sizes 250 = (847, 863) := by decide
example (key : Bytes) (hk : key.length = 250) : (chunkKey key 999).length + (sizes key.length).2 + 67 = 1184 := by
  rw [chunkKey_length, sizes_eq _ (by omega), hk]
  decide

end Rend.Props.C16
