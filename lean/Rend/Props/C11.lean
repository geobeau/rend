/-
  C11 — Malformed client input is contained to its own connection.

  Totality of both parsers and of the connection loop is inherent: they are total Lean
  functions on arbitrary byte lists.  What is proved here: contradictory length fields are
  rejected before anything is read or allocated; a bound on the allocation measure; every parse
  that lets the connection go on consumes input, so the connection loop never spins (its fuel is
  never exhausted).
-/
import Rend.Server.Loop
import Rend.Proofs.ParseBounds

namespace Rend.Props.C11
open Rend Rend.Wire Rend.Server

/-- A binary store header whose total body is shorter than key plus extras is rejected without
    reading or allocating anything. -/
theorem C11_contradictory_rejected (h : ReqHeader) (k : SetKind) (q : Bool) (inp : Bytes)
    (hbad : h.total < h.extLen + h.keyLen) :
    parseSet h k q inp = { rt := k.reqType, err := some .badBodyLength, rest := inp, alloc := 0 } := by
  simp [parseSet, hbad, failWith]

theorem C11_contradictory_rejected_pend (h : ReqHeader) (k : SetKind) (q : Bool) (inp : Bytes)
    (hbad : h.total < h.keyLen) :
    parsePend h k q inp = { rt := k.reqType, err := some .badBodyLength, rest := inp, alloc := 0 } := by
  simp [parsePend, hbad, failWith]

def declaredValue (h : ReqHeader) : Nat := if h.extLen + h.keyLen ≤ h.total then h.total - h.extLen - h.keyLen else 0

/-- The allocation measure of a decoding is at most a constant plus the key, value and total lengths
    the first header declares plus 64 KiB for every 24 bytes of input (the headers a batch of gets can
    hold; the term is there for every opcode, so the bound grows with the input for a `set` too); and
    decoding never hands back more input than it was given. -/
theorem C11_alloc_bound (inp : Bytes) :
    (binParse inp).rest.length ≤ inp.length ∧
    ∀ h rest, readRequestHeader inp = .ok h rest →
      (binParse inp).alloc ≤ 8 + h.keyLen + declaredValue h + h.total + 65536 * (inp.length / 24 + 1) := by
  constructor
  · by_cases hs : inp.length < 24
    · rw [binParse_short inp hs]
      exact Nat.zero_le _
    · exact Nat.le_trans (Nat.le_add_right _ _) (binParse_rest inp (Nat.le_of_not_lt hs))
  · intro h rest hh
    obtain ⟨hl, hk, ht⟩ := readHeader_some hh
    have hdiv : rest.length / 24 ≤ inp.length / 24 := Nat.div_le_div_right (by omega)
    simp only [binParse, hh]
    refine Nat.le_trans (dispatch_within h rest hk ht).2 ?_
    omega

/-- A binary parse that does not end the connection consumes at least a whole header. -/
theorem C11_bin_progress (inp : Bytes) (h : (binParse inp).err = none) :
    (binParse inp).rest.length + 24 ≤ inp.length :=
  binParse_rest inp (Nat.le_of_not_lt fun hs => by rw [binParse_short inp hs] at h; cases h)

/-- A text parse that lets the connection go on (a request, an unknown command, or one of the four
    client errors) has consumed at least the newline that ended the command line. -/
theorem C11_text_progress (inp : Bytes) (h : (textParse inp).err ≠ some .eof) :
    (textParse inp).rest.length < inp.length := by
  cases hl : readLine inp with
  | none => simp [textParse, hl, failWith] at h
  | some p => exact Nat.lt_of_le_of_lt (textParse_within hl).1 (readLine_some hl)

/-- Whatever lets the connection loop go round again has consumed input. -/
theorem parse_progress (p : Proto) (inp : Bytes)
    (h : (parse p inp).err = none ∨ ∃ e, (parse p inp).err = some (.app e)) :
    (parse p inp).rest.length < inp.length := by
  have hne : (parse p inp).err ≠ some .eof := fun heof => by
    rw [heof] at h
    rcases h with h | ⟨e, h⟩ <;> cases h
  cases p with
  | text => exact C11_text_progress inp hne
  | bin =>
    have := binParse_rest inp (Nat.le_of_not_lt fun hs => hne (by rw [parse, binParse_short inp hs]; rfl))
    simp only [parse]
    omega

/-- The connection loop never runs out of fuel: every iteration that does not end the connection
    consumes at least one byte of input, so `inp.length + 1` iterations always suffice, for every
    input, backend state and fault. -/
theorem C11_loop_terminates (cf : Conf) (now : Nat) (fault : Option Fault) :
    ∀ (fuel : Nat) (inp : Bytes) (st : RunSt) (out : Out), inp.length < fuel →
      (loop cf now fault fuel inp st out).1.ending ≠ .outOfFuel := by
  intro fuel inp st out h
  -- the cases are numbered in the order of the branches of `Server.loop`: 1 no fuel; 2, 3 a client
  -- error (answered / closing); 4 end of input; 5 another parse error; 6 crash; 7 responder panic;
  -- 8 quit; 9 result ok; 10–12 panic, crash, io error; 13, 14 an application error (answered / closing)
  fun_induction loop cf now fault fuel inp st out
  case case1 => omega
  -- the loop goes round after a client error it answers (2), after a served command (9) and after an
  -- application error it answers (13): each time on what the parse left, with one unit of fuel less
  case case2 ih =>
    exact ih (Nat.lt_of_lt_of_le (parse_progress _ _ (.inr ⟨_, ‹_›⟩)) (Nat.le_of_lt_succ h))
  case case9 ih | case13 ih =>
    exact ih (Nat.lt_of_lt_of_le (parse_progress _ _ (.inl ‹_›)) (Nat.le_of_lt_succ h))
  -- everywhere else it has stopped, with an ending that is written out
  all_goals nofun

end Rend.Props.C11
