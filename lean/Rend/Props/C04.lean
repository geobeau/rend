/-
  C04 — Chunked storage is transparent for every size, key and command.

  The chunked handler model (`Rend.Chunked`, transcribed from handlers/memcached/chunked and
  built on the REGENERATED `chunkSize`, `chunkSliceIndices`, `numChunks` expression and
  constants) against the reference backend map.
-/
import Rend.Proofs.ChunkedTier
import Rend.Proofs.ChunkedRead
import Rend.Proofs.ChunkedWrite
import Rend.Proofs.ChunkedRoundTrip

namespace Rend.Props.C04
open Rend Rend.Chunked

/-- **Round trip for every length.**  A set through the chunking handler followed by a get
    returns exactly the bytes and the flags written: for every value length (0, around every
    multiple of the payload size, any number of chunks), every key of 0..250 bytes, every flags
    word, every 16-byte token and every prior content of the backend. -/
theorem C04_roundtrip {ε} (now : Nat) (t : Tier) (c : SetCmd) (g : GetKey) (w : World) (tok : Bytes) (tk : List Bytes)
    (hg : g.key = c.key) (hkey : c.key.length ≤ 250) (hd : c.data.length < 4294967296) (hf : c.flags < 4294967296)
    (ht : tok.length = 16) (hlive : deadlineOf now c.exptime = 0 ∨ now < deadlineOf now c.exptime) :
    let w1 := ((setCommon (ε := ε) t now .set c).eval now w (tok :: tk)).2.2.1
    ((setCommon (ε := ε) t now .set c).eval now w (tok :: tk)).1 = .ok () ∧
    ((getLoop (ε := ε) t [g]).eval now w1 tk).1 =
      ([{ key := g.key, data := c.data, opq := g.opq, flags := c.flags, quiet := g.quiet }], none) := by
  have hlive (x : Bytes) : (⟨x, c.flags, deadlineOf now c.exptime⟩ : Item).live now = true := by
    rcases hlive with h0 | h0 <;> simp [Item.live, h0]
  rw [eval_setCommon_set]
  intro w1
  refine ⟨rfl, ?_⟩
  -- the store then serves the metadata record and every chunk of the command's intent
  have hw1 : w1.get t = _ := World.get_put_same _ _ _
  have hmeta : (w1.get t).look now (metaKey c.key) =
      some ⟨encodeMeta (setMeta now c tok), c.flags, deadlineOf now c.exptime⟩ :=
    look_some.mpr ⟨by rw [hw1, setChunks_other _ _ _ _ _ fun _ _ _ => metaKey_ne_chunkKey _ _ _, Store.set_same], hlive _⟩
  have hchunk (j : Nat) (hj : j < (setMeta now c tok).numChunks) : (w1.get t).look now (chunkKey c.key j) =
      some ⟨(intentOf c tok).chunkVal j, c.flags, deadlineOf now c.exptime⟩ :=
    look_some.mpr ⟨by rw [hw1]; exact setChunks_chunk _ _ _ (Nat.zero_le j) (by rwa [Nat.zero_add]), hlive _⟩
  have hk : readKey now (w1.get t) c.key = some (setMeta now c tok, .value c.data) :=
    readKey_complete now _ (intentOf c tok) _ (setMeta_wf now c tok hkey hd hf ht) (setMeta_describes ..) hkey _
      hmeta rfl _ hchunk fun _ => rfl
  rw [eval_getLoop, List.map_cons, List.map_nil, hg, hk]
  rfl

/-- **Footprint.**  Every backend request of every method of the handler — whatever the backend
    answers, whichever tokens are drawn — addresses the metadata entry or a numbered chunk of the
    client key the method was called for (or is the key-less noop that closes a quiet batch). -/
theorem C04_footprint {ε} (t : Tier) (now : Nat) :
    (∀ k c, AllReqs (Derived c.key) ((Chunked.handler (ε := ε) t now).store k c)) ∧
    (∀ c, AllReqs (Derived c.key) ((Chunked.handler (ε := ε) t now).gat c)) ∧
    (∀ c, AllReqs (Derived c.key) ((Chunked.handler (ε := ε) t now).delete c)) ∧
    (∀ c, AllReqs (Derived c.key) ((Chunked.handler (ε := ε) t now).touch c)) ∧
    (∀ ks, AllReqs (fun t r => ∃ g ∈ ks, Derived g.key t r) ((Chunked.handler (ε := ε) t now).get ks)) :=
  have f := (handler_foot (ε := ε) t now).mono (F' := Derived) fun _ _ _ h => h.2
  ⟨f.store, f.gat, f.delete, f.touch, fun ks => (f.get ks).toAll⟩

/-- **Distinct client keys never share a backend entry**: derived keys determine the client key
    (and the chunk number); a metadata key is never a chunk key. -/
theorem C04_keys_disjoint :
    (∀ k k' i j, chunkKey k i = chunkKey k' j → k = k' ∧ i = j) ∧
    (∀ k k', metaKey k = metaKey k' → k = k') ∧
    (∀ k k' i, metaKey k ≠ chunkKey k' i) ∧
    (∀ k k' t r, Derived k t r → Derived k' t r → r.op ≠ .noop → k = k') :=
  ⟨chunkKey_inj, metaKey_inj, metaKey_ne_chunkKey, derived_disjoint⟩

/-- Consequently a store-type command, a get-and-touch, a delete or a touch on one key leaves
    every backend entry of every other client key exactly as it was. -/
theorem C04_other_keys_untouched {ε} (now : Nat) (t : Tier) (key other : Bytes) (hne : other ≠ key)
    (p : Prog ε (HRes Unit)) (hp : AllReqs (Derived key) p) (w : World) (tk : List Bytes) (htk : ∀ x ∈ tk, x.length = 16) :
    ((p.eval now w tk).2.2.1.get t) (metaKey other) = (w.get t) (metaKey other) ∧
    ∀ i, ((p.eval now w tk).2.2.1.get t) (chunkKey other i) = (w.get t) (chunkKey other i) := by
  have hu : ∀ k, (∀ i, k ≠ chunkKey key i) → k ≠ metaKey key → ((p.eval now w tk).2.2.1.get t) k = (w.get t) k := fun k h1 h2 =>
    (hp.mono fun _ r hd _ => by
      rcases hd with h | h | ⟨j, h⟩
      · exact Or.inl h
      · exact Or.inr (h ▸ Ne.symm h2)
      · exact Or.inr (h ▸ Ne.symm (h1 j))).eval_untouched now t k w tk htk
  exact ⟨hu _ (fun _ => metaKey_ne_chunkKey _ _ _) fun e => hne (metaKey_inj _ _ e),
    fun i => hu _ (fun j e => hne (chunkKey_inj _ _ _ _ e).1) (metaKey_ne_chunkKey _ _ _).symm⟩

/-- **A delete leaves no entry of the key readable**: whatever the backend held, a following get
    of that key misses. -/
theorem C04_delete_unreadable {ε} (now : Nat) (t : Tier) (c : KeyCmd) (g : GetKey) (hg : g.key = c.key) (w : World)
    (tk : List Bytes) (htk : ∀ x ∈ tk, x.length = 16) :
    ((getLoop (ε := ε) t [g]).eval now ((Chunked.delete (ε := ε) t c).eval now w tk).2.2.1 tk).1 =
      ([{ key := g.key, opq := g.opq, miss := true, quiet := g.quiet }], none) := by
  simp [eval_getLoop, readKey, hg, delete_removes_meta now t c w tk htk, respOf]

/-- The metadata codec is exact on every well-formed record. -/
theorem C04_metadata_codec (m : Meta) (h : m.WF) : decodeMeta (encodeMeta m) = m := decode_encode m h

/-- Reassembly arithmetic at every boundary: copying the chunks `0..n-1` of any value into a
    zeroed buffer of its length, slice by slice with the regenerated `chunkSliceIndices`,
    reproduces the value (payload size `ds > 0`, `n = ⌈len/ds⌉`). -/
theorem C04_reassembly (md : Meta) (h : Intent) (hk : h.key.length ≤ 250) (hl : md.length = h.data.length)
    (hc : md.chunkSize = h.ds) (ht : h.token.length = 16) (htok : md.token = h.token) :
    (((List.range' 0 h.n).map h.chunkVal).foldl (fun s d => hitStep md s d) { buf := Bytes.zeros md.length }).buf = h.data := by
  rw [foldl_own_all md h hk hl hc ht htok]

/-- The numeric side conditions of `C04_roundtrip` (key length, value length, live deadline) at a
    250-byte key, a 3000-byte value and exptime 0 at time 100; no command is instantiated. -/
example : (250 : Nat) ≤ 250 ∧ (3000 : Nat) < 4294967296 ∧ (deadlineOf 100 0 = 0 ∨ 100 < deadlineOf 100 0) := by
  refine ⟨by decide, by decide, Or.inl rfl⟩

end Rend.Props.C04
