/-
  C05 — Chunked reads are all-or-nothing: never a torn or patched-together value.

  Stated over `Intent` and `Consistent` of Proofs/ChunkedLayout.lean.
-/
import Rend.Proofs.ChunkedGat
import Rend.Proofs.ChunkedReqs

namespace Rend.Props.C05
open Rend Rend.Chunked

/-- Every request of a set / add / replace through the chunked handler — whatever the backend
    answers, so also when the command is cut short at any request — writes one whole entry of
    the command's own intent.  (About the program after the token draw, like `setCommon_sends`.) -/
theorem C05_set_requests {ε} (t : Tier) (now : Nat) (k : SetKind) (c : SetCmd) (hk : k = .set ∨ k = .add ∨ k = .replace)
    (hkey : c.key.length ≤ 250) (hd : c.data.length < 4294967296) (hf : c.flags < 4294967296) :
    ∃ body : Bytes → Prog ε (HRes Unit), setCommon t now k c = .draw body ∧
      ∀ token, token.length = 16 → AllReqs (IsStoreWrite (intentOf c token)) (body token) := by
  obtain ⟨body, e, hb⟩ := setCommon_sends (ε := ε) t now k c
  have hop : k.op = .set ∨ k.op = .add ∨ k.op = .replace := by
    rcases hk with rfl | rfl | rfl <;> simp [SetKind.op]
  -- the metadata record of the command's intent, then its chunks
  exact ⟨body, e, fun token ht => (hb _ token
    ⟨hop, Or.inl ⟨rfl, _, rfl, setMeta_wf now c token hkey hd hf ht, setMeta_describes ..⟩⟩
    fun j => ⟨Or.inl rfl, Or.inr ⟨j, rfl, rfl⟩⟩).reqs⟩

/-- One allowed request (a write of an entry of an intent; any read, touch or delete) keeps the
    store consistent; so does the loss of any entry. -/
theorem C05_step (s : Store) (H : List Intent) (hc : Consistent s H) :
    (∀ now r, ReqOK H r → Consistent (Mc.exec now s r).1 H) ∧ (∀ k, Consistent (s.set k none) H) :=
  ⟨fun now r hr => hc.exec now r hr, fun k => hc.drop k⟩

/-- **Every interleaving, every loss.**  Any sequence — in any order, at any times — of requests
    of any number of concurrent writers and readers, interleaved at single-request granularity,
    and of losses of arbitrary entries, leaves a consistent store.  Assumed (`ht`): tokens pairwise distinct. -/
theorem C05_every_interleaving (H : List Intent) (ht : ∀ h ∈ H, ∀ h' ∈ H, h.token = h'.token → h = h')
    (hl : ∀ h ∈ H, h.token.length = 16) (hk : ∀ h ∈ H, h.key.length ≤ 250)
    (ops : List (Nat × Req ⊕ Bytes)) (hall : ∀ now r, Sum.inl (now, r) ∈ ops → ReqOK H r) :
    Consistent (ops.foldl (fun s op => match op with
      | .inl (now, r) => (Mc.exec now s r).1
      | .inr k => s.set k none) Store.empty) H := by
  have hs := Consistent.empty H ht hl hk
  generalize Store.empty = s at hs ⊢
  induction ops generalizing s with
  | nil => exact hs
  | cons op rest ih =>
    refine ih (fun now r hm => hall now r (List.mem_cons_of_mem _ hm)) _ ?_
    cases op with
    | inl p => exact hs.exec p.1 p.2 (hall p.1 p.2 (List.mem_cons_self ..))
    | inr k => exact hs.drop k

/-- **All-or-nothing.**  Against every consistent store a get of any list of keys answers, per
    key, with a miss or with the value and flags of ONE intent, whole; it changes nothing. -/
theorem C05_get_all_or_nothing {ε} (now : Nat) (t : Tier) (H : List Intent) (tk : List Bytes) (ks : List GetKey) (w : World)
    (hc : Consistent (w.get t) H) :
    ((getLoop (ε := ε) t ks).eval now w tk).2.2.1 = w ∧
    ((getLoop (ε := ε) t ks).eval now w tk).1.2 = none ∧
    ((getLoop (ε := ε) t ks).eval now w tk).1.1.map (·.key) = ks.map (·.key) ∧
    ∀ resp ∈ ((getLoop (ε := ε) t ks).eval now w tk).1.1, AnswerOK H resp := by
  rw [eval_getLoop]
  refine ⟨rfl, rfl, by simp [respOf_key], fun resp hr => ?_⟩
  obtain ⟨g, _, rfl⟩ := List.mem_map.mp hr
  exact respOf_ok hc ..

/-- **Get-and-touch** likewise, and it leaves a consistent store: it only moves deadlines, and its quiet
    requests answer from the same entries as quiet gets. -/
theorem C05_gat_all_or_nothing {ε} (now : Nat) (t : Tier) (H : List Intent) (tk : List Bytes) (c : KeyCmd) (w : World)
    (hc : Consistent (w.get t) H) :
    Consistent ((((Chunked.gat (ε := ε) t c).eval now w tk).2.2.1).get t) H ∧
    ∃ resp, ((Chunked.gat (ε := ε) t c).eval now w tk).1 = .ok resp ∧ resp.key = c.key ∧ AnswerOK H resp := by
  obtain ⟨w', he, hw⟩ := eval_gat (ε := ε) now t c w tk
  rw [he]
  exact ⟨(hc.exec now { op := .gat, key := metaKey c.key, exptime := c.exptime } trivial).chunksRetimed hw, _, rfl, respOf_key .., respOf_ok hc ..⟩

/-- `C05_every_interleaving` and `C05_get_all_or_nothing` combined, for an L1 built by such a sequence. -/
theorem C05_torn_value_impossible {ε} (H : List Intent) (ht : ∀ h ∈ H, ∀ h' ∈ H, h.token = h'.token → h = h')
    (hl : ∀ h ∈ H, h.token.length = 16) (hk : ∀ h ∈ H, h.key.length ≤ 250)
    (ops : List (Nat × Req ⊕ Bytes)) (hall : ∀ now r, Sum.inl (now, r) ∈ ops → ReqOK H r)
    (now : Nat) (other : Store) (tk : List Bytes) (ks : List GetKey) :
    let s := ops.foldl (fun s op => match op with
      | .inl (now, r) => (Mc.exec now s r).1
      | .inr k => s.set k none) Store.empty
    ∀ resp ∈ ((getLoop (ε := ε) .l1 ks).eval now { l1 := s, l2 := other } tk).1.1, AnswerOK H resp :=
  (C05_get_all_or_nothing (ε := ε) now .l1 H tk ks { l1 := _, l2 := other } (C05_every_interleaving H ht hl hk ops hall)).2.2.2

/-- The read phase in closed form: a value is produced only if exactly `numChunks` chunk entries
    are served and every one of them carries the metadata's token. -/
theorem C05_read_closed_form {ε} (now : Nat) (t : Tier) (key : Bytes) (md : Meta) (w : World) (tk : List Bytes) :
    (readChunks (ε := ε) t .getq key 0 md).eval now w tk =
      (let its := presentItems now (w.get t) key md.numChunks 0
       let s := its.foldl (fun s it => hitStep md s it.data) { buf := Bytes.zeros md.length }
       if its.length != md.numChunks || s.miss then ReadOut.miss else ReadOut.value s.buf, [], w, tk) :=
  eval_readChunks_getq' now t key md w tk

/-- Non-vacuity: a store holding the metadata of one intent and a chunk of another for the same
    key is consistent (so the theorem really covers mixtures), and `AnswerOK` excludes something. -/
example (h1 h2 : Intent) (hne : h1.token ≠ h2.token) (hk : h1.key = h2.key) (l1 : h1.token.length = 16)
    (l2 : h2.token.length = 16) (k1 : h1.key.length ≤ 250) (m : Meta) (hw : m.WF) (hd : h1.Describes m) :
    Consistent ((Store.empty.set (metaKey h1.key) (some ⟨encodeMeta m, 0, 0⟩)).set (chunkKey h2.key 0) (some ⟨h2.chunkVal 0, 0, 0⟩)) [h1, h2] := by
  have h0 : Consistent Store.empty [h1, h2] :=
    Consistent.empty _ (by simp [hne, Ne.symm hne]) (by simp [l1, l2]) (by simp [k1, ← hk])
  have h1' := h0.write h1 (by simp) { op := .set, key := metaKey h1.key, value := encodeMeta m } (Or.inl ⟨rfl, m, rfl, hw, hd⟩) 0 0
  exact h1'.write h2 (by simp) { op := .set, key := chunkKey h2.key 0, value := h2.chunkVal 0 } (Or.inr ⟨0, rfl, rfl⟩) 0 0

example : ¬ AnswerOK [] { key := [1], data := [9], miss := false } := by
  intro h
  rcases h with h | ⟨_, hm, _⟩
  · cases h
  · cases hm

end Rend.Props.C05
