/-
  C12 — Key locks are always released and a failure below closes the connection.

  `Locked.step` is instantiated from `Gen.lockedFacts`, which gen extracts from orcas/locked.go
  on every run (lock used, read or write mode, deferred / inline unlock, recover, unlock inside
  the recover, re-panic, which wrapped method is called).  The wrapped orchestrator is an
  ARBITRARY program: "for all runs" therefore covers every result — success, error, a panic at
  any point underneath (`.error .panic`) — and every backend behaviour.
-/
import Rend.Props.C08
import Rend.Proofs.LockedRuns
import Rend.Proofs.LoopLemmas
import Rend.Proofs.Progress

namespace Rend.Props.C12
open Rend

def lockEvs (es : List OEv) : List OEv :=
  es.filter (fun e => match e with | .resp _ => false | _ => true)

theorem lockEvs_append (a b : List OEv) : lockEvs (a ++ b) = lockEvs a ++ lockEvs b := by
  simp [lockEvs]

theorem lockEvs_section (s : Nat) (r : Bool) (mid es : List OEv) (h : lockEvs mid = []) :
    lockEvs (.acquire s r :: (mid ++ .release s r :: es)) = .acquire s r :: .release s r :: lockEvs es := by
  rw [← List.singleton_append, lockEvs_append, lockEvs_append, h]
  rfl

structure NoLocks {α : Type} (p : OProg α) : Prop where
  out : ∀ a es, Runs p a es → lockEvs es = []

/-- Lock events in which every acquire is immediately followed (as far as locks go) by the
    release of the same stripe in the same mode: at most one lock held at any time, none at the end. -/
inductive Paired : List OEv → Prop where
  | nil : Paired []
  | cons (s : Nat) (r : Bool) (rest : List OEv) : Paired rest → Paired (.acquire s r :: .release s r :: rest)

theorem Paired.append {a b : List OEv} (ha : Paired a) (hb : Paired b) : Paired (a ++ b) := by
  induction ha with
  | nil => exact hb
  | cons s r rest _ ih => exact Paired.cons s r _ ih

/-- The regenerated table, checked by `decide`: every keyed single-key method takes the write
    lock, releases it by `defer`, lets a panic through and calls the wrapped method of the same
    name; `Get`/`GetE` take the read lock per key, release inline, recover, release in the recover,
    re-panic and call the wrapped method of the same name.  The theorems about gets take their
    facts from `C08.locked_facts_ok`, which has the gate on the terminator as well; that each
    method calls its namesake is what `Locked.step` is written after. -/
theorem facts :
    (∀ n ∈ ["Set", "Add", "Replace", "Append", "Prepend", "Delete", "Touch", "Gat"],
      (lockedFact n).usesLock = true ∧ (lockedFact n).deferUnlock = true ∧ (lockedFact n).recovers = false ∧
      (lockedFact n).readLock = false ∧ (lockedFact n).wrappedCall = n) ∧
    (∀ n ∈ ["Get", "GetE"],
      (lockedFact n).usesLock = true ∧ (lockedFact n).inlineUnlock = true ∧ (lockedFact n).recovers = true ∧
      (lockedFact n).recoverUnlocks = true ∧ (lockedFact n).repanics = true ∧ (lockedFact n).readLock = true ∧
      (lockedFact n).wrappedCall = n) := by
  decide

/-- **Single-key commands.**  Every run of a locked single-key method around an arbitrary
    wrapped call that does not kill the process: exactly one acquire and one release of the
    key's stripe, in that order, around the wrapped call; the wrapped call's result — a panic
    included — is passed on unchanged. -/
theorem C12_single (f : Gen.LockedFact) (hf : f.usesLock = true ∧ f.deferUnlock = true ∧ f.recovers = false)
    (bits : Nat) (key : Bytes) (p : OProg (HRes Unit)) (hp : NoLocks p) (res : HRes Unit) (es : List OEv)
    (h : Runs (lockedSingle f bits key p) res es) (hc : isCrash res = false) :
    lockEvs es = [.acquire (stripeOf bits key) f.readLock, .release (stripeOf bits key) f.readLock] ∧
    ∃ es', Runs p res es' := by
  rw [lockedSingle_eq f hf] at h
  refine lockedThen_always
    (Q := fun res es => isCrash res = false →
      lockEvs es = [.acquire (stripeOf bits key) f.readLock, .release (stripeOf bits key) f.readLock] ∧ ∃ es', Runs p res es')
    (fun r e3 hr => ⟨?_, fun _ => .pure ?_⟩) res es h hc
  · intro hc' hc
    rw [hc'] at hc
    cases hc
  · exact fun _ => ⟨lockEvs_section _ _ e3 [] (hp.out r e3 hr), e3, hr⟩

/-- What the per-key loop of `Get` / `GetE` does, in terms of the runs of the wrapped per-key
    calls: key by key — acquire the key's stripe, run the wrapped call, release; stop at the
    first result that is not success and return THAT result (a panic stays a panic). -/
inductive GetRuns (f : Gen.LockedFact) (bits : Nat) (sub : GetCmd → OProg (HRes Unit)) (g : GetCmd) :
    List GetKey → HRes Unit → List OEv → Prop where
  | nil : GetRuns f bits sub g [] (.ok ()) []
  | stop (k : GetKey) (rest : List GetKey) (sg : GetCmd) (r : HRes Unit) (e3 : List OEv) :
      sg.keys = [k] → Runs (sub sg) r e3 → r ≠ .ok () → isCrash r = false →
      GetRuns f bits sub g (k :: rest) r
        (.acquire (stripeOf bits k.key) f.readLock :: (e3.filter (fun e => rest.isEmpty || !isGetEndEv e) ++
          [.release (stripeOf bits k.key) f.readLock]))
  | crash (k : GetKey) (rest : List GetKey) (sg : GetCmd) (r : HRes Unit) (e3 : List OEv) :
      sg.keys = [k] → Runs (sub sg) r e3 → isCrash r = true →
      GetRuns f bits sub g (k :: rest) r
        (.acquire (stripeOf bits k.key) f.readLock :: e3.filter (fun e => rest.isEmpty || !isGetEndEv e))
  | next (k : GetKey) (rest : List GetKey) (sg : GetCmd) (e3 : List OEv) (res : HRes Unit) (es : List OEv) :
      sg.keys = [k] → Runs (sub sg) (.ok ()) e3 → GetRuns f bits sub g rest res es →
      GetRuns f bits sub g (k :: rest) res
        (.acquire (stripeOf bits k.key) f.readLock :: (e3.filter (fun e => rest.isEmpty || !isGetEndEv e) ++
          .release (stripeOf bits k.key) f.readLock :: es))

theorem filter_true' (l : List OEv) : l.filter (fun e => true || !isGetEndEv e) = l := by simp

/-- **Multi-key gets**: every run of the locked get loop is of the shape `GetRuns`. -/
theorem C12_get_shape (f : Gen.LockedFact)
    (hf : f.usesLock = true ∧ f.inlineUnlock = true ∧ f.recovers = true ∧ f.recoverUnlocks = true ∧
      f.repanics = true ∧ f.gatesGetEnd = true)
    (bits : Nat) (sub : GetCmd → OProg (HRes Unit)) (g : GetCmd) :
    ∀ (ks : List GetKey) res es, Runs (lockedGetLoop f bits sub g ks) res es → GetRuns f bits sub g ks res es := by
  intro ks
  induction ks with
  | nil =>
    intro res es h
    obtain ⟨rfl, rfl⟩ := Runs.of_pure h
    exact GetRuns.nil
  | cons k rest ih =>
    rw [lockedGetLoop_cons_eq f hf]
    refine lockedThen_always fun r es hr => ?_
    obtain ⟨e3, hs, rfl⟩ := Runs.gate_inv hr
    refine ⟨fun hc => .crash k rest _ r e3 rfl hs hc, fun hnc => ?_⟩
    cases r with
    | error e => exact .pure (.stop k rest _ _ e3 rfl hs nofun hnc)
    | ok u => exact fun res es h => .next k rest _ e3 res es rfl hs (ih res es h)

theorem lockEvs_filter (keep : OEv → Bool) (es : List OEv) (h : lockEvs es = []) : lockEvs (es.filter keep) = [] := by
  unfold lockEvs at h ⊢
  rw [List.filter_filter, List.filter_eq_nil_iff]
  intro e he
  simp [List.filter_eq_nil_iff.mp h e he]

/-- …hence a connection never holds two key locks, and none when the get is over — however
    many keys, whatever happens underneath (short of the process dying). -/
theorem C12_get_paired (f : Gen.LockedFact) (bits : Nat) (sub : GetCmd → OProg (HRes Unit)) (hsub : ∀ g', NoLocks (sub g'))
    (g : GetCmd) : ∀ ks res es, GetRuns f bits sub g ks res es → isCrash res = false → Paired (lockEvs es) := by
  intro ks res es h
  induction h with
  | nil => intro _; exact Paired.nil
  | stop k rest sg r e3 _ hs _ _ =>
    intro _
    rw [lockEvs_section _ _ _ [] (lockEvs_filter _ e3 ((hsub sg).out r e3 hs))]
    exact Paired.cons _ _ _ Paired.nil
  | crash k rest sg r e3 _ _ hc => intro h; rw [hc] at h; cases h
  | next k rest sg e3 res es _ hs _ ih =>
    intro hc
    rw [lockEvs_section _ _ _ es (lockEvs_filter _ e3 ((hsub sg).out _ e3 hs))]
    exact Paired.cons _ _ _ (ih hc)

/-- A result of the loop other than success is the result of one of the wrapped per-key calls.
    (That a panic underneath is not swallowed is in `GetRuns` itself: the run ends at the first
    call that does not succeed, with that call's result.) -/
theorem C12_get_result (f : Gen.LockedFact) (bits : Nat) (sub : GetCmd → OProg (HRes Unit)) (g : GetCmd) :
    ∀ ks res es, GetRuns f bits sub g ks res es →
      res = .ok () ∨ ∃ sg e3, Runs (sub sg) res e3 ∧ res ≠ .ok () := by
  intro ks res es h
  induction h with
  | nil => exact Or.inl rfl
  | stop k rest sg r e3 _ hs hne _ => exact Or.inr ⟨sg, e3, hs, hne⟩
  | crash k rest sg r e3 _ hs hc => exact Or.inr ⟨sg, e3, hs, by intro h; subst h; simp [isCrash] at hc⟩
  | next _ _ _ _ _ _ _ _ _ ih => exact ih

/-- **A panic below closes the connection.**  When the orchestrator call of a parsed command
    ends in a panic, the connection loop stops with everything closed — it neither continues nor
    leaves the client waiting. -/
theorem C12_panic_closes (cf : Server.Conf) (now : Nat) (fault : Option Fault) (fuel : Nat) (inp : Bytes) (st : RunSt)
    (out : Server.Out) (hparse : (Server.parse cf.proto inp).err = none)
    (hpanic : ((cf.orca ((Server.parse cf.proto inp).cmd.getD .unknown)).runSt now fault st).1 = .error .panic) :
    (Server.loop cf now fault (fuel + 1) inp st out).1.ending = .closed :=
  Server.loop_error_closes cf now fault fuel inp st out hparse .panic hpanic nofun nofun

/-- The panic result reaches the loop's ending because the deferred function of
    `DefaultServer.Loop` recovers and — unconditionally, as a direct statement of the recover
    block — calls `abort(conns, …)`; regenerated from server/default.go on every run. -/
theorem C12_recover_aborts : Gen.loopDeferRecoverAborts = true := by decide

/-- The wrapper as a whole, for the single-key commands: the regenerated facts satisfy the
    hypotheses of `C12_single`. -/
theorem C12_locked_step_single (bits : Nat) (wrapped : Cmd → OProg (HRes Unit)) (hw : ∀ c, NoLocks (wrapped c))
    (c : Cmd) (key : Bytes)
    (hk : (∃ k s, c = .store k s ∧ key = s.key) ∨ (∃ k, c = .delete k ∧ key = k.key) ∨ (∃ k, c = .touch k ∧ key = k.key) ∨
      (∃ k, c = .gat k ∧ key = k.key))
    (res : HRes Unit) (es : List OEv) (h : Runs (Locked.step bits wrapped c) res es) (hc : isCrash res = false) :
    lockEvs es = [.acquire (stripeOf bits key) false, .release (stripeOf bits key) false] ∧ ∃ es', Runs (wrapped c) res es' := by
  have hkey : c.lockKey = some key := by
    rcases hk with ⟨k, s, rfl, rfl⟩ | ⟨k, rfl, rfl⟩ | ⟨k, rfl, rfl⟩ | ⟨k, rfl, rfl⟩ <;> rfl
  obtain ⟨n, hn, e⟩ := Locked.step_keyed bits wrapped hkey
  obtain ⟨h1, h2, h3, h4, _⟩ := facts.1 n hn
  rw [e] at h
  exact h4 ▸ C12_single _ ⟨h1, h2, h3⟩ bits key _ (hw c) res es h hc

/-- …and for get: the regenerated facts satisfy the hypotheses of `C12_get_shape`. -/
theorem C12_locked_step_get (bits : Nat) (wrapped : Cmd → OProg (HRes Unit)) (hw : ∀ c, NoLocks (wrapped c))
    (g : GetCmd) (res : HRes Unit) (es : List OEv) (h : Runs (Locked.step bits wrapped (.get g)) res es)
    (hc : isCrash res = false) :
    Paired (lockEvs es) ∧ (res = .ok () ∨ ∃ sg e3, Runs (wrapped (.get sg)) res e3 ∧ res ≠ .ok ()) := by
  have hshape := C12_get_shape (lockedFact "Get") C08.locked_facts_ok.2.1 bits (fun sub => wrapped (.get sub)) g g.keys res es h
  exact ⟨C12_get_paired _ bits _ (fun g' => hw _) g _ _ _ hshape hc, C12_get_result _ bits _ g _ _ _ hshape⟩

/-- The three orchestrators, over any handlers that are silent towards the client (proved for the
    pass-through and the chunked handler models), emit no lock events: the hypothesis `NoLocks` of
    the theorems above holds for everything the wrapper is ever put around. -/
theorem C12_orchestrators_no_locks (o : OrcaKind) (h1 h2 : Handler OEv) (hs1 : SilentHandler h1) (hs2 : SilentHandler h2)
    (c : Cmd) : NoLocks (o.step h1 h2 c) :=
  ⟨(o.step_replies h1 h2 hs1 hs2 c).mono fun _ _ ⟨rs, he, _⟩ => by simp [he, lockEvs]⟩

/-- The wrapper around a real orchestrator, with no hypothesis about the wrapped code left: single-key
    commands, and (next) gets. -/
theorem C12_wrapped_single (bits : Nat) (o : OrcaKind) (h1 h2 : Handler OEv) (hs1 : SilentHandler h1) (hs2 : SilentHandler h2)
    (c : Cmd) (key : Bytes)
    (hk : (∃ k s, c = .store k s ∧ key = s.key) ∨ (∃ k, c = .delete k ∧ key = k.key) ∨ (∃ k, c = .touch k ∧ key = k.key) ∨
      (∃ k, c = .gat k ∧ key = k.key))
    (res : HRes Unit) (es : List OEv) (h : Runs (Locked.step bits (o.step h1 h2) c) res es) (hc : isCrash res = false) :
    lockEvs es = [.acquire (stripeOf bits key) false, .release (stripeOf bits key) false] ∧
      ∃ es', Runs (o.step h1 h2 c) res es' :=
  C12_locked_step_single bits _ (fun c' => C12_orchestrators_no_locks o h1 h2 hs1 hs2 c') c key hk res es h hc

theorem C12_wrapped_get (bits : Nat) (o : OrcaKind) (h1 h2 : Handler OEv) (hs1 : SilentHandler h1) (hs2 : SilentHandler h2)
    (g : GetCmd) (res : HRes Unit) (es : List OEv) (h : Runs (Locked.step bits (o.step h1 h2) (.get g)) res es)
    (hc : isCrash res = false) :
    Paired (lockEvs es) ∧ (res = .ok () ∨ ∃ sg e3, Runs (o.step h1 h2 (.get sg)) res e3 ∧ res ≠ .ok ()) :=
  C12_locked_step_get bits _ (fun c' => C12_orchestrators_no_locks o h1 h2 hs1 hs2 c') g res es h hc

/-- Non-vacuity: `Paired` rejects a sequence that holds two locks, and one that leaves a lock held. -/
example : ¬ Paired [.acquire 1 false, .acquire 2 false, .release 2 false, .release 1 false] := by
  intro h; cases h
example : ¬ Paired [.acquire 1 false] := by
  intro h; cases h

/-! ### No deadlock, over the scheduler semantics

  The theorems above are about the wrapper's program: one lock at a time per connection, released
  on every path.  The scheduler semantics (`Proofs/Sched.lean`, instances in `Serial.lean` /
  `SerialMR.lean`: any number of connections; a critical section = `Lock()` of the key's stripe,
  the section's backend requests and responder calls one per step, `Unlock()`) has that
  discipline built in; it is not derived from the theorems above.  Over it there is progress from
  EVERY configuration — reachable or not, whatever the programs inside the sections are. -/

/-- **A lock holder is never blocked and can always finish**: from any configuration, a
    connection inside its critical section reaches the end of it — its lock released — by its own
    steps alone, whatever state the other connections are in (exclusive locks). -/
theorem C12_holder_finishes {α : Type} (now : Nat) (thr : Nat → Conc.Thread α) (i : Nat) (p : Prog OEv α)
    (c : Conc.Conf α) (evs : List OEv) (h : c.ts i = .running p evs) :
    ∃ sched c' a evs', Conc.Exec now thr c sched c' ∧ Conc.OnlyBy i sched ∧ c'.ts i = .done a evs' :=
  Conc.holder_finishes now thr i p c evs h

/-- …and while it is kept waiting, the steps of the others leave it where it is. -/
theorem C12_others_keep_holder {α : Type} (now : Nat) (thr : Nat → Conc.Thread α) (c c' : Conc.Conf α) (s : Conc.Step)
    (i : Nat) (p : Prog OEv α) (evs : List OEv) (h : c.ts i = .running p evs) (hs : Conc.Step1 now thr c s c')
    (hne : s ≠ .act i ∧ s ≠ .rel i) : c'.ts i = .running p evs :=
  Conc.others_keep_holder now thr c c' s i p evs h hs hne

/-- **No deadlock (exclusive locks: write locks, single-reader mode).**  Every configuration in
    which some connection has not finished admits a step. -/
theorem C12_no_deadlock {α : Type} (now : Nat) (thr : Nat → Conc.Thread α) (c : Conc.Conf α)
    (h : ∃ i, ∀ a evs, c.ts i ≠ .done a evs) : ∃ s c', Conc.Step1 now thr c s c' :=
  Conc.no_deadlock now thr c h

/-- The same with shared read locks (multi-reader mode). -/
theorem C12_holder_finishes_shared_reads (now : Nat) (thr : Nat → Conc.CThread) (i : Nat) (p : Prog OEv (HRes Unit))
    (c : Conc.Conf (HRes Unit)) (evs : List OEv) (h : c.ts i = .running p evs) :
    ∃ sched c' a evs', Conc.ExecR now thr c sched c' ∧ Conc.OnlyBy i sched ∧ c'.ts i = .done a evs' :=
  Conc.holder_finishesR now thr i p c evs h

theorem C12_no_deadlock_shared_reads (now : Nat) (thr : Nat → Conc.CThread) (c : Conc.Conf (HRes Unit))
    (h : ∃ i, ∀ a evs, c.ts i ≠ .done a evs) : ∃ s c', Conc.StepR now thr c s c' :=
  Conc.no_deadlockR now thr c h

/-- Non-vacuity: the lock does block — with connection 0 inside a critical section of stripe 5,
    connection 1 (same stripe) is refused its lock, yet the configuration is not stuck. -/
example : let thr : Nat → Conc.Thread Unit := fun _ => { key := [], stripe := 5, body := .ret () }
    let c : Conc.Conf Unit := { w := {}, ts := fun j => if j = 0 then .running (.ret ()) [] else .idle }
    (¬ ∃ c', Conc.Step1 0 thr c (.acq 1) c') ∧ ∃ s c', Conc.Step1 0 thr c s c' := by
  intro thr c
  constructor
  · rintro ⟨c', h⟩
    cases h with
    | acq _ _ hfree => exact hfree 0 (.ret ()) [] rfl rfl
  · exact C12_no_deadlock 0 thr c ⟨1, by intro a evs h; simp [c] at h⟩

end Rend.Props.C12
