/-
  C06 — The batching pool returns each caller its own, correct result.

  Message-level model of handlers/memcached/batched (`Rend.Batched`): opaque assignment of
  `batchIntoBuffer` (byte-exact against the real function on every run), the reader's routing by
  opaque, the retry tracker of multi-key gets.  Goroutines, channels and timers are not modelled:
  which requests share a batch and in which order replies arrive are universally quantified.
-/
import Rend.Proofs.BatchedLemmas

namespace Rend.Props.C06
open Rend Rend.Batched

/-- **Distinct wire opaques**: however requests are grouped into a batch (fewer than 2^32 opaque
    values needed) and whatever the random base, no two requests / keys of a batch share an opaque. -/
theorem C06_wire_opaques_distinct (base : Nat) (rs : List BReq) (h : span rs < 4294967296) :
    ((assign (w32 base) rs).2.1.map (·.wire)).Nodup :=
  wires_nodup base rs h

/-- **Every routing-table entry belongs to the request it was made for**: it carries that
    caller's channel and the key, opaque and quiet flag of one of that request's keys. -/
theorem C06_handles_own : ∀ (c : Nat) (rs : List BReq), ∀ h ∈ (assign c rs).2.1,
    ∃ r ∈ rs, h.chan = r.chan ∧
      ((⟨h.key, h.opq, h.quiet⟩ : BKey) ∈ r.keys ∨ (⟨h.key, h.opq, h.quiet⟩ : BKey) = r.keys.headD default)
  | _, [], h, hh => by simp [assign] at hh
  | c, r :: rest, h, hh => by
    simp only [assign, List.mem_append] at hh
    rcases hh with hh | hh
    · refine ⟨r, List.mem_cons_self .., ?_⟩
      unfold assignReq at hh
      split at hh
      · exact (assignKeys_own _ _ _ _ h hh).imp_right .inl
      · exact (assignKeys_own _ _ _ _ h hh).imp_right .inl
      · cases List.mem_singleton.mp hh
        exact ⟨rfl, .inr rfl⟩
    · obtain ⟨r', hr', x⟩ := C06_handles_own _ rest h hh
      exact ⟨r', List.mem_cons_of_mem _ hr', x⟩

/-- The number of replies a caller's channel is told to expect is the number of backend requests
    made for it: one per requested key of a get, one for every other command. -/
theorem C06_expected_counts (c : Nat) (r : BReq) :
    (assignReq c r).2.2.2 = (r.chan, (assignReq c r).2.2.1.length) := by
  unfold assignReq
  split <;> simp [assignKeys_length]

/-- **Routing**: the replies to a batch, arriving in ANY order, are each handed to the entry that
    owns the reply's opaque — the reader never declares the batch out of sync, no caller receives
    a reply made for another caller's request, and when all have arrived the table is empty. -/
theorem C06_routing (base : Nat) (rs : List BReq) (hspan : span rs < 4294967296) (counts : List (Nat × Nat))
    (ws : List Nat) (hperm : ws.Perm ((assign (w32 base) rs).2.1.map (·.wire))) :
    ∃ s' hs, deliverAll ⟨(assign (w32 base) rs).2.1, counts⟩ ws = some (s', hs) ∧ hs.map (·.wire) = ws ∧
      (∀ h ∈ hs, h ∈ (assign (w32 base) rs).2.1) ∧ s'.table = [] := by
  have hnd := wires_nodup base rs hspan
  obtain ⟨s', hs, h1, h2, h3, h5⟩ := deliverAll_ok ws ⟨(assign (w32 base) rs).2.1, counts⟩ hnd
    (hperm.nodup_iff.mpr hnd) (fun w hw => hperm.mem_iff.mp hw)
  refine ⟨s', hs, h1, h2, h3, ?_⟩
  -- every opaque of the batch was answered, so no entry is left
  cases ht : s'.table with
  | nil => rfl
  | cons x xs =>
    have := (h5 x.wire).mp (by rw [ht]; exact List.mem_cons_self ..)
    exact absurd (hperm.mem_iff.mpr this.1) this.2

/-- **Multi-key gets across retries**: answers received plus keys asked again are exactly the keys
    requested (duplicates and quiet flags included): one reply per requested key, none twice. -/
theorem C06_one_reply_per_key (requested answered : List BKey) (h : AnswersOf requested answered) :
    (answered ++ Batched.remaining requested answered).Perm requested :=
  remaining_perm answered requested h

/-- A get of two keys between two sets gets the opaques base+2 and base+3, the sets base+1 and base+5. -/
example : ((assign 100 [⟨.set, [⟨[1], 7, false⟩], 0, 0, [9], 0⟩, ⟨.get, [⟨[2], 8, true⟩, ⟨[3], 9, false⟩], 0, 0, [], 1⟩,
    ⟨.set, [⟨[4], 10, false⟩], 0, 0, [9], 2⟩]).2.1.map (·.wire)) = [101, 102, 103, 105] := by decide

end Rend.Props.C06
