/-
  C15 — A client disconnect at any byte releases everything held for that connection.

  A client that goes away at byte n is, to the server, the input stream cut after n bytes: the
  theorems below hold for EVERY input (so for every prefix of every request stream).
-/
import Rend.Props.C12
import Rend.Props.C11

namespace Rend.Props.C15
open Rend Rend.Server Rend.Props.C12

/-- Structure of the connection code, regenerated from server/default.go and server/listen.go
    on every run: every `return` of `DefaultServer.Loop` is preceded by `abort(conns, …)`, the
    deferred recover aborts as well, the protocol-detection failure path of the accept loop closes
    the remote and both handlers, and the loop is handed exactly three closers (remote, L1, L2). -/
theorem C15_every_exit_aborts :
    (∀ r ∈ Gen.loopReturns, r.2 = true) ∧ Gen.loopReturns.length ≥ 1 ∧ Gen.loopDeferRecoverAborts = true ∧
    Gen.listenCanParseErrorAbortsAll = true ∧ Gen.listenServerClosers = 3 := by
  decide

/-- …and `abort` itself closes EVERY closer it is handed that is not nil: the body of its loop is
    `if c != nil { c.Close() }` (or the `continue` form), with no further condition — regenerated
    from server/utils.go on every run. -/
theorem C15_abort_closes_all : Gen.abortClosesEveryNonNil = true := by decide

/-- **Every prefix ends the connection's goroutine**: on every input the loop stops — with
    everything closed by the server (`closed`), because the input ended (`eof`, after which the
    server closes everything too), or because the process died — and never runs on. -/
theorem C15_prefix_ends (cf : Conf) (now : Nat) (fault : Option Fault) (inp : Bytes) (st : RunSt) :
    (run cf now fault inp st).1.ending = .closed ∨ (run cf now fault inp st).1.ending = .eof ∨
    (run cf now fault inp st).1.ending = .crashed := by
  have h := C11.C11_loop_terminates cf now fault (inp.length + 2) inp st {} (by omega)
  unfold run
  cases he : (loop cf now fault (inp.length + 2) inp st {}).1.ending with
  | closed => exact Or.inl rfl
  | eof => exact Or.inr (Or.inl rfl)
  | crashed => exact Or.inr (Or.inr rfl)
  | outOfFuel => exact absurd he h

theorem paired_orcaError {c : Option Cmd} {rt : ReqType} {e : Err} {now : Nat} {fault : Option Fault} {st st' : RunSt}
    {u : Unit} {evs : List OEv} (h : (orcaError c rt e).runSt now fault st = (u, evs, st')) {pre : List OEv}
    (ho : Paired (lockEvs pre)) : Paired (lockEvs (pre ++ evs)) := by
  rw [lockEvs_append]
  cases c <;> cases h <;> exact ho.append .nil

theorem paired_call {p : OProg (HRes Unit)} (hp : ∀ res es, Runs p res es → isCrash res = false → Paired (lockEvs es))
    {now : Nat} {fault : Option Fault} {st st' : RunSt} {res : HRes Unit} {evs : List OEv}
    (h : p.runSt now fault st = (res, evs, st')) (hc : ¬ isCrash res = true) {pre : List OEv}
    (ho : Paired (lockEvs pre)) : Paired (lockEvs (pre ++ evs)) := by
  have hr := Prog.runSt_runs now fault p st
  rw [h] at hr
  rw [lockEvs_append]
  exact ho.append (hp res evs hr (Bool.eq_false_iff.mpr hc))

/-- **No key stays locked, wherever the stream is cut**: if every call of the connection's
    orchestrator leaves its lock events paired (C12, for the locking wrapper; trivially for the
    bare orchestrators), then over the whole life of the connection — whatever the input, cut at
    any byte — lock events are paired: never two locks, none held when the loop has ended
    (unless the process died). -/
theorem C15_locks_released (cf : Conf) (now : Nat) (fault : Option Fault)
    (hp : ∀ cmd res es, Runs (cf.orca cmd) res es → isCrash res = false → Paired (lockEvs es)) :
    ∀ (fuel : Nat) (inp : Bytes) (st : RunSt) (out : Out), Paired (lockEvs out.events) →
      (loop cf now fault fuel inp st out).1.ending ≠ .crashed →
      Paired (lockEvs (loop cf now fault fuel inp st out).1.events) := by
  intro fuel inp st out ho hne
  fun_induction loop cf now fault fuel inp st out
  -- the cases are numbered in the order of the branches of `Server.loop` (the full list is at
  -- `C11_loop_terminates`).  The loop goes round: after a client error it answers, after a served
  -- command, after an application error it answers
  case case2 ih => exact ih (paired_orcaError ‹_› ho) hne
  case case9 ih => exact ih (paired_call (hp _) ‹_› ‹_› ho) hne
  case case13 ih => exact ih (paired_orcaError ‹_› (paired_call (hp _) ‹_› ‹_› ho)) hne
  -- it stops before any call
  case case1 | case3 | case4 | case5 => exact ho
  -- the call crashed
  case case6 => exact absurd rfl hne
  -- it stops after a call that did not crash
  all_goals exact paired_call (hp _) ‹_› ‹_› ho

/-- Reading a request that is cut short takes no lock and sends nothing to a backend: a parse
    that ends in `eof` ends the loop before any orchestrator call. -/
theorem C15_truncated_request_is_inert (cf : Conf) (now : Nat) (fault : Option Fault) (fuel : Nat) (inp : Bytes)
    (st : RunSt) (out : Out) (h : (parse cf.proto inp).err = some .eof) :
    loop cf now fault (fuel + 1) inp st out = ({ out with ending := .eof }, st) := by
  simp only [loop, h]

end Rend.Props.C15
