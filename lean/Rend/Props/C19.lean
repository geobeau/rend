/-
  C19 — Cluster routing is a stable function of the key and the node set.
  `md5` is an arbitrary function; the label order `lle` is any decidable total order.
-/
import Rend.Cluster.Ketama
import Rend.Gen.Facts
import Rend.Proofs.Ring

namespace Rend.Props.C19
open Rend Rend.Cluster

variable {L : Type} [DecidableEq L]

section order
variable {lle : L → L → Bool} (ho : TotalOrder lle)
include ho

/-- The ring — and therefore the node chosen for every key and every ring location — does not
    depend on the order in which the nodes were listed. -/
theorem C19_order_independent (md5 : Bytes → Bytes) (name : L → Bytes) (limit : Nat) (ls ls' : List L)
    (h : ls.Perm ls') : ring md5 name lle limit ls = ring md5 name lle limit ls' := by
  unfold ring allPoints
  exact sort_perm_eq ho _ _ (h.flatMap_right _)

theorem C19_order_independent_hash (md5 : Bytes → Bytes) (name : L → Bytes) (limit : Nat) (ls ls' : List L)
    (h : ls.Perm ls') (key : Bytes) :
    hashKey md5 (ring md5 name lle limit ls) key = hashKey md5 (ring md5 name lle limit ls') key := by
  rw [C19_order_independent ho md5 name limit ls ls' h]

end order

/-- An instance of `rfl`, true of any term: it states nothing about `hashKey`.  That a set and a later
    get reach the same node is `hashKey` being a function of ring and key in the model. -/
theorem C19_set_get_same_node (md5 : Bytes → Bytes) (r : List (Point L)) (key : Bytes) :
    hashKey md5 r key = hashKey md5 r key := rfl

/-- `Bucket` returns the owner of the first point at or after the location … -/
theorem C19_lookup_successor (r : List (Point L)) (loc : Nat) (p : Point L)
    (h : r.find? (fun q => decide (loc ≤ q.1)) = some p) :
    bucketAt r loc = some p.2 ∧ loc ≤ p.1 ∧ p ∈ r := by
  unfold bucketAt
  rw [h]
  have := List.find?_some h
  exact ⟨rfl, by simpa using this, List.mem_of_find?_eq_some h⟩

/-- … and wraps around to the first point of the ring when there is none. -/
theorem C19_lookup_wraps (r : List (Point L)) (loc : Nat)
    (h : ∀ q ∈ r, q.1 < loc) : bucketAt r loc = r.head?.map (·.2) := by
  unfold bucketAt
  rw [List.find?_eq_none.mpr fun q hq hd => Nat.not_le.mpr (h q hq) (of_decide_eq_true hd)]

/-- Removing a node re-routes only the keys that node owned — provided every remaining node
    contributes the same points before and after (i.e. `limit` is unchanged, see `limit_40`). -/
theorem C19_removal_local {lle : L → L → Bool} (ho : TotalOrder lle) (md5 : Bytes → Bytes) (name : L → Bytes)
    (limit : Nat) (ls : List L) (x : L) (loc : Nat) (owner : L)
    (hown : bucketAt (ring md5 name lle limit ls) loc = some owner) (hne : owner ≠ x) :
    bucketAt (ring md5 name lle limit (ls.filter (· != x))) loc = some owner := by
  have hring : ring md5 name lle limit (ls.filter (· != x)) =
      (ring md5 name lle limit ls).filter (fun p => p.2 != x) := by
    unfold ring
    rw [← sort_filter ho]
    congr 1
    exact allPoints_filter md5 name limit ls x
  rw [hring]
  exact bucketAt_filter _ _ _ _ (fun p hp => by simp [hp, hne]) hown

/-- With equal weights every node contributes 40 digests (160 points) for every cluster size
    the property speaks about — in exact float32/float64 arithmetic. -/
theorem limit_40 : ∀ n : Fin 33, 1 ≤ n.val → limitOf n.val = 40 := by
  decide +kernel

/-- … so every node owns at least one point of the ring (a non-empty arc). -/
theorem C19_every_node_on_ring {lle : L → L → Bool} (md5 : Bytes → Bytes) (name : L → Bytes) (limit : Nat)
    (hl : 0 < limit) (ls : List L) (l : L) (h : l ∈ ls) : ∃ p ∈ ring md5 name lle limit ls, p.2 = l := by
  refine ⟨(le32 (md5 (name l ++ [45] ++ Bytes.decDigits 0)) (4 * 0), l), ?_, rfl⟩
  unfold ring
  rw [(List.mergeSort_perm _ _).mem_iff]
  simp only [allPoints, List.mem_flatMap]
  refine ⟨l, h, ?_⟩
  simp only [pointsOf, List.mem_flatMap, List.mem_map, List.mem_range]
  exact ⟨0, hl, 0, by decide, rfl⟩

/-- Two points at one location are ordered by their labels, and one way only (`points.Less` breaks
    the tie on the label).  Under an order on the location alone they could be sorted either way
    round, so the owner of that location would depend on how the nodes were listed; `ple_antisymm`,
    on which the uniqueness of the sorted ring (`eq_mergeSort`) rests, would fail. -/
example : ple (fun (a b : Nat) => decide (a ≤ b)) (5, 1) (5, 2) = true ∧
          ple (fun (a b : Nat) => decide (a ≤ b)) (5, 2) (5, 1) = false := by decide

/-- The fact `Gen.continuumResetStartsEmpty`, regenerated from handlers/memcached/cluster/ketama.go on
    every run, is `true`: the slice that `Continuum.Reset` appends the points to and assigns to `c.ring`
    starts out with length 0.  The model's ring being a function of the node list alone (`ring`) rests
    on it; nothing about rings or histories of `Reset`s is stated. -/
theorem C19_reset_rebuilds : Gen.continuumResetStartsEmpty = true := by decide

end Rend.Props.C19
