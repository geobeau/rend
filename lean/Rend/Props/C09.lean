/-
  C09 — TTL fidelity: no tier keeps an item longer, or shorter, than last requested.

  Deadlines are absolute seconds (0 = never).  `deadlineOf` is memcached's rule with the
  REGENERATED 30-day constant.  The back-fill gives L1 L2's deadline whenever L2's remaining
  lifetime is at most 30 days — and provably NOT beyond (finding D22: the remaining lifetime is
  sent as a relative TTL, memcached reads > 30 days as an absolute date in 1970, the L1 copy is
  born expired).
-/
import Rend.Proofs.OrcaSeq
import Rend.Proofs.ChunkedGat

namespace Rend.Props.C09
open Rend

/-- The expiry rule: 0 = never; up to 30 days relative to the command; above, absolute. -/
theorem C09_deadline_rule (now e : Nat) :
    deadlineOf now e = if e = 0 then 0 else if e ≤ 2592000 then now + e else e := by
  simp [deadlineOf, Gen.chunked_realTimeMaxDelta]

/-- The specification: set/add/replace that succeed leave the key with exactly the requested expiry. -/
theorem C09_spec_store_deadline (now : Nat) (s : Store) (k : SetKind) (c : SetCmd)
    (hk : k = .set ∨ k = .add ∨ k = .replace) (hok : (Spec.step now s (.store k c)).2 = .ok) :
    (Spec.step now s (.store k c)).1 c.key = some ⟨c.data, c.flags, deadlineOf now c.exptime⟩ := by
  rw [spec_step_store] at hok ⊢
  rcases hk with rfl | rfl | rfl <;> cases h : s.look now c.key <;> simp [mcStore, newItem, Store.set, h] at hok ⊢

/-- touch and get-and-touch that find the key replace its expiry by the requested one and nothing else. -/
theorem C09_spec_touch_deadline (now : Nat) (s : Store) (k : KeyCmd) (it : Item) (h : s.look now k.key = some it) :
    (Spec.step now s (.touch k)).1 k.key = some { it with deadline := deadlineOf now k.exptime } ∧
    (Spec.step now s (.gat k)).1 k.key = some { it with deadline := deadlineOf now k.exptime } := by
  rw [spec_step_touch, spec_step_gat]
  simp [mcTouch, h, Store.set]

/-- append / prepend leave the expiry (and flags) as they were. -/
theorem C09_spec_pend_keeps_deadline (now : Nat) (s : Store) (k : SetKind) (c : SetCmd) (it : Item)
    (hk : k = .append ∨ k = .prepend) (h : s.look now c.key = some it) :
    ∃ it', (Spec.step now s (.store k c)).1 c.key = some it' ∧ it'.deadline = it.deadline ∧ it'.flags = it.flags := by
  rw [spec_step_store]
  rcases hk with rfl | rfl <;> simp [mcStore, h, Store.set]

/-- Plain reads change nothing. -/
theorem C09_spec_get_keeps (now : Nat) (s : Store) (g : GetCmd) : (Spec.step now s (.get g)).1 = s := rfl

/-- **L2 holds exactly the requested expiries**: after every history it is the specification's map. -/
theorem C09_l2_exact (acts : List Act) (now : Nat) (tk : List Bytes) (h : ActsTwoTier acts) :
    (endActs now {} tk acts).2.l2 = specEnd now Store.empty acts :=
  (history_refines acts now {} tk h (.empty now)).2.1

/-- **L1 never serves a key after L2 stopped serving it**, after every history. -/
theorem C09_l1_never_longer (acts : List Act) (now : Nat) (tk : List Bytes) (h : ActsTwoTier acts) :
    let e := endActs now {} tk acts
    ∀ k a, e.2.l1.look e.1 k = some a → ∃ b, e.2.l2.look e.1 k = some b ∧ Outlives b a :=
  fun k a ha =>
    let ⟨b, hb, _, _, ho⟩ := (history_refines acts now {} tk h (.empty now)).2.2 k a ha
    ⟨b, hb, ho⟩

/-- Consequently a key is never served after the expiry last asked for: what any tier serves,
    the single map serves at that moment. -/
theorem C09_never_served_after (acts : List Act) (now : Nat) (tk : List Bytes) (h : ActsTwoTier acts) :
    let e := endActs now {} tk acts
    ∀ k a, e.2.l1.look e.1 k = some a → ((specEnd now Store.empty acts).look e.1 k).isSome := by
  intro e k a ha
  obtain ⟨b, hb, _⟩ := C09_l1_never_longer acts now tk h k a ha
  rw [C09_l2_exact acts now tk h] at hb
  show ((specEnd now Store.empty acts).look (endActs now {} tk acts).1 k).isSome = true
  rw [hb]; rfl

/-- A main-port set leaves both tiers with the same item, hence the same deadline. -/
theorem C09_set_both_tiers (now : Nat) (w : World) (tk : List Bytes) (c : SetCmd) :
    let r := (L1L2.step (Std.handler .l1) (Std.handler .l2) (.store .set c)).eval now w tk
    r.2.2.1.l1 c.key = some ⟨c.data, c.flags, deadlineOf now c.exptime⟩ ∧
    r.2.2.1.l2 c.key = some ⟨c.data, c.flags, deadlineOf now c.exptime⟩ := by
  simp [L1L2.step, L1L2.set, eval_andThen_store, mcStore, newItem, Store.set]

/-- A touch (either port) that finds the key in both tiers leaves both with the requested deadline. -/
theorem C09_touch_both_tiers (now : Nat) (w : World) (tk : List Bytes) (c : KeyCmd) (a b : Item)
    (h1 : w.l1.look now c.key = some a) (h2 : w.l2.look now c.key = some b) (p : Port) :
    let r := (portStep p (.touch c)).eval now w tk
    r.2.2.1.l1 c.key = some { a with deadline := deadlineOf now c.exptime } ∧
    r.2.2.1.l2 c.key = some { b with deadline := deadlineOf now c.exptime } := by
  have t2 : (mcTouch now w.l2 c.key c.exptime) = (w.l2.set c.key (some { b with deadline := deadlineOf now c.exptime }), true) := by
    simp [mcTouch, h2]
  have t1 : (mcTouch now w.l1 c.key c.exptime) = (w.l1.set c.key (some { a with deadline := deadlineOf now c.exptime }), true) := by
    simp [mcTouch, h1]
  rw [portStep_touch]
  unfold twoTier
  rw [eval_andThen_touch]
  simp only [World.get_l2, t2, if_true]
  rw [eval_andThen_touch]
  simp [t1, ackOr, isErr, Store.set]

/-- **Back-fill**: the L1 copy gets L2's deadline when L2's remaining lifetime is at most 30 days
    (or the item never expires). -/
theorem C09_backfill_exact (now : Nat) (b : Item) (hl : b.live now = true) (h30 : remaining now b ≤ 2592000) :
    (backfillItem now b).deadline = b.deadline ∧ (backfillItem now b).data = b.data ∧
      (backfillItem now b).flags = b.flags :=
  ⟨backfill_deadline_within now b hl h30, rfl, rfl⟩

/-- …and NOT beyond (finding D22, see the header; in general `backfill_deadline_beyond`): on this
    item, one second beyond, the copy's deadline is the remaining lifetime and it is born expired. -/
theorem C09_backfill_over_30_days_differs :
    (backfillItem 1700000000 ⟨[1], 0, 1700000000 + 2592001⟩).deadline = 2592001 ∧
    (backfillItem 1700000000 ⟨[1], 0, 1700000000 + 2592001⟩).live 1700000000 = false := by
  have h := backfill_deadline_beyond 1700000000 ⟨[1], 0, 1700000000 + 2592001⟩ (by decide)
  exact ⟨h, by rw [Item.live, h]; decide⟩

/-- **Finding D7, in the model** (the code does the same: `known_findings.jsonl`, directed
    scenario `C09-dir-gat-append`).  The chunking handler's get-and-touch gives the metadata entry
    the new deadline but leaves its bytes untouched — so the expiry recorded INSIDE the metadata,
    which append / prepend re-store the value with, is still the one from before. -/
theorem C09_chunked_gat_keeps_recorded_expiry (now : Nat) (t : Tier) (c : KeyCmd) (w : World) (tk : List Bytes)
    (htk : ∀ x ∈ tk, x.length = 16) (it : Item) (h : (w.get t).look now (Chunked.metaKey c.key) = some it) :
    (((Chunked.gat (ε := OEv) t c).eval now w tk).2.2.1.get t) (Chunked.metaKey c.key) =
      some { it with deadline := deadlineOf now c.exptime } :=
  Chunked.gat_keeps_recorded_expiry now t c w tk it h

end Rend.Props.C09
