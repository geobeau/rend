/-
  C17 — The in-memory backend behaves like the reference map and is safe to share.

  Model: `Inmem.handler` (the error mapping and the GetE expiry of inmem.go) over the reference
  map `Mc`; that inmem's Go map, its expiry computation and its liveness test behave as `Mc`
  is what the correspondence check decides on every run.  The locking facts
  (`Gen.inmemFacts`: which lock each method takes, whether its body writes the map) are
  regenerated from the source on every run.
-/
import Rend.Gen.Facts
import Rend.Handlers.Inmem
import Rend.Proofs.OrcaSeq

namespace Rend.Props.C17
open Rend

theorem eval_inmem_store (now : Nat) (k : SetKind) (c : SetCmd) (w : World) (tk : List Bytes) :
    (Inmem.store (ε := OEv) k c).eval now w tk =
      (if (mcStore now w.l1 k c).2 then .ok ()
       else .error (.app (if k == .append || k == .prepend then .keyNotFound else missErr k)), [],
       w.put .l1 (mcStore now w.l1 k c).1, tk) := by
  unfold Inmem.store
  simp only [Prog.eval_bind, Prog.eval_req, mc_exec_store, World.get_l1]
  cases hs : (mcStore now w.l1 k c).2 with
  | true => simp
  | false =>
    have hd := decode_fail k (mcStore_refused hs).2
    cases k <;> simp [hd]

/-- The function `Inmem.getE` maps over its answers, copied from there so that `eval_inmem_getE` closes by `rfl`. -/
def absExp (now : Nat) (r : GetResp) : GetResp :=
  if r.miss || r.exptime == 0 then r else { r with exptime := now + r.exptime }

theorem eval_inmem_getE (now : Nat) (ks : List GetKey) (w : World) (tk : List Bytes) :
    (Inmem.getE (ε := OEv) now ks).eval now w tk =
      (((ks.map (stdGetResp now (w.get .l1) true)).map (absExp now), none), [], w, tk) := by
  unfold Inmem.getE
  rw [Prog.eval_bind, eval_std_getLoop_gete]
  rfl

theorem view_absExp (now : Nat) (r : GetResp) : viewOf (absExp now r) = viewOf r := by
  unfold absExp viewOf
  split <;> rfl

theorem Inmem.servesMap (now : Nat) : ServesMap now (Inmem.handler now) where
  store k c w tk := ⟨_, eval_inmem_store now k c w tk⟩
  get ks w tk := ⟨_, eval_std_getLoop_get now .l1 w tk ks, map_view_std now w.l1 false ks⟩
  getE ks w tk := by
    refine ⟨_, eval_inmem_getE now ks w tk, ?_⟩
    rw [List.map_map, show viewOf ∘ absExp now = viewOf from funext (view_absExp now)]
    exact map_view_std now w.l1 true ks
  gat _ := rfl
  delete _ := rfl
  touch _ := rfl

/-- **The in-memory backend is the reference map**: behind the L1-only orchestrator every
    command is answered as the single map answers it, and the backend's content moves as the map's. -/
theorem C17_step_refines (now : Nat) (w : World) (tk : List Bytes) (c : Cmd) :
    let r := (L1Only.step (Inmem.handler now) c).eval now w tk
    r.2.2.1.l1 = (Spec.step now w.l1 c).1 ∧ Agrees c (Spec.step now w.l1 c).2 r.1 r.2.1 := by
  obtain ⟨h1, _, h3⟩ := L1Only.step_refines now _ (Inmem.servesMap now) w tk c
  exact ⟨h1, h3⟩

/-- An add on an existing (unexpired) key fails and leaves it untouched. -/
theorem C17_add_existing (now : Nat) (s : Store) (c : SetCmd) (it : Item) (h : s.look now c.key = some it) :
    Spec.step now s (.store .add c) = (s, .fail) := by
  rw [spec_step_store]; simp [mcStore, h]

/-- A delete (touch, replace, append, prepend) of a missing or expired key reports failure and changes nothing. -/
theorem C17_missing_key (now : Nat) (s : Store) (k : KeyCmd) (c : SetCmd) (hk : s.look now k.key = none)
    (hc : s.look now c.key = none) :
    Spec.step now s (.delete k) = (s, .fail) ∧ Spec.step now s (.touch k) = (s, .fail) ∧
    Spec.step now s (.store .replace c) = (s, .fail) ∧ Spec.step now s (.store .append c) = (s, .fail) ∧
    Spec.step now s (.store .prepend c) = (s, .fail) := by
  rw [spec_step_delete, spec_step_touch, spec_step_store, spec_step_store, spec_step_store]
  simp [mcDelete, mcTouch, mcStore, hk, hc]

/-- Expired entries behave as absent: a lookup does not see them. -/
theorem C17_expired_absent (now : Nat) (s : Store) (k : Bytes) (it : Item) (h : s k = some it)
    (hexp : it.deadline ≠ 0 ∧ it.deadline ≤ now) : s.look now k = none := by
  have : it.live now = false := by
    simp only [Item.live]
    have h1 : (it.deadline == 0) = false := by simpa using hexp.1
    have h2 : decide (now < it.deadline) = false := by simpa using hexp.2
    simp [h1, h2]
  simp [Store.look, h, this]

def factOf (n : String) : Option Gen.InmemFact := Gen.inmemFacts.find? (fun f => f.name == n)

/-- **Locking discipline** (regenerated facts): all ten handler methods are present; every method
    whose body writes the shared map holds the write lock; a method that holds only the read
    lock never writes the map.  Under a read/write mutex any two conflicting accesses (at least
    one a write) are therefore mutually exclusive. -/
theorem C17_lock_discipline :
    (∀ n ∈ ["Set", "Add", "Replace", "Append", "Prepend", "Get", "GetE", "GAT", "Delete", "Touch"], (factOf n).isSome = true) ∧
    (∀ f ∈ Gen.inmemFacts, (f.writesMap = true → f.writeLock = true) ∧ (f.writeLock = false → f.readLockOnly = true ∧ f.writesMap = false)) ∧
    (∀ a ∈ Gen.inmemFacts, ∀ b ∈ Gen.inmemFacts, (a.writesMap = true ∨ b.writesMap = true) → (a.writeLock = true ∨ b.writeLock = true)) := by
  decide

end Rend.Props.C17
