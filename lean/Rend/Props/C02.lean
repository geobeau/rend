/-
  C02 — L1 is only a cache: losing L1 entries is invisible; L1 never disagrees with L2.
-/
import Rend.Proofs.OrcaSeq
import Rend.Proofs.RemnantAdd

namespace Rend.Props.C02
open Rend

/-- **Quiescent inclusion.**  After every history of main-port and batch-port commands, clock
    ticks and arbitrary L1 losses — i.e. whenever no command is in flight — every key L1 serves
    is served by L2 with the same value and flags (at least as long: `C09_l1_never_longer`). -/
theorem C02_quiescent_inclusion (acts : List Act) (now : Nat) (tk : List Bytes) (h : ActsTwoTier acts) :
    let e := endActs now {} tk acts
    ∀ k a, e.2.l1.look e.1 k = some a →
      ∃ b, e.2.l2.look e.1 k = some b ∧ a.data = b.data ∧ a.flags = b.flags :=
  fun k a ha =>
    let ⟨b, hb, hd, hf, _⟩ := (history_refines acts now {} tk h (.empty now)).2.2 k a ha
    ⟨b, hb, hd, hf⟩

/-- **Evictions are invisible.**  A history and the same history with every L1 loss removed are
    answered alike: both, command by command, as the one specification run (which knows no
    evictions) answers. -/
theorem C02_evictions_invisible (acts : List Act) (now : Nat) (tk : List Bytes) (h : ActsTwoTier acts) :
    AllAgree (runActs now {} tk acts) (specActs now Store.empty acts) ∧
    AllAgree (runActs now {} tk (stripEvicts acts)) (specActs now Store.empty acts) := by
  refine ⟨(history_refines acts now {} tk h (.empty now)).1, ?_⟩
  have := (history_refines (stripEvicts acts) now {} tk (stripEvicts_twoTier acts h) (.empty now)).1
  rw [specActs_strip] at this
  exact this

/-- More generally: two histories that differ only in where and what L1 lost. -/
theorem C02_any_two_eviction_patterns (a1 a2 : List Act) (now : Nat) (tk : List Bytes)
    (h1 : ActsTwoTier a1) (h2 : ActsTwoTier a2) (hs : stripEvicts a1 = stripEvicts a2) :
    ∃ spec, AllAgree (runActs now {} tk a1) spec ∧ AllAgree (runActs now {} tk a2) spec := by
  refine ⟨specActs now Store.empty a1, (history_refines a1 now {} tk h1 (.empty now)).1, ?_⟩
  have := (history_refines a2 now {} tk h2 (.empty now)).1
  rw [← specActs_strip a2, ← hs, specActs_strip] at this
  exact this

/-- L2 itself never notices L1: at the end of every history it *is* the single map. -/
theorem C02_l2_is_the_map (acts : List Act) (now : Nat) (tk : List Bytes) (h : ActsTwoTier acts) :
    (endActs now {} tk acts).2.l2 = specEnd now Store.empty acts :=
  (history_refines acts now {} tk h (.empty now)).2.1

/-- The invariant is inductive: kept by every command on either port, by every loss of L1 entries
    and by the passing of time. -/
theorem C02_invariant_inductive (now : Nat) (w : World) (tk : List Bytes) (hinv : CacheInv now w) :
    (∀ p c, TwoTier c → CacheInv now ((portStep p c).eval now w tk).2.2.1) ∧
    (∀ lost, CacheInv now (w.evict lost)) ∧ (∀ dt, CacheInv (now + dt) w) :=
  ⟨fun p c hc => (portStep_refines now w tk p c hc hinv).2.1, fun lost => hinv.evict lost,
   fun _ => hinv.mono (Nat.le_add_right _ _)⟩

/-- Non-vacuity: the invariant is violated by a world in which L1 holds what L2 does not, so it
    does say something. -/
example : ¬ CacheInv 0 { l1 := Store.empty.set [1] (some ⟨[2], 0, 0⟩), l2 := Store.empty } := by
  intro h
  obtain ⟨b, hb, _⟩ := h [1] ⟨[2], 0, 0⟩ (by simp [Store.look, Store.set, Item.live])
  simp [Store.look, Store.empty] at hb

/-- **Finding D23, in the model** (the code does the same: `known_findings.jsonl`, scenario
    `remnant-add` of the harness).  The theorems above are about pass-through handlers, where L1's
    live entries are always backed by L2 (`CacheInv`).  With the CHUNKING handler on L1 the loss of
    a chunk entry leaves a metadata entry behind that reads cannot see but `add` can: if L2 does
    not serve the key and L1 serves a metadata entry of it, the main port's `add` returns "key
    exists" without a reply of its own — the client is told NOT_STORED — while L2 holds the added
    value afterwards and the single map, asked the same, says "stored".  So on this configuration the loss of an L1 entry is NOT invisible. -/
theorem C02_chunked_remnant_blocks_add (now : Nat) (w : World) (tk : List Bytes) (c : SetCmd)
    (hl2 : w.l2.look now c.key = none) (it : Item) (hl1 : w.l1.look now (Chunked.metaKey c.key) = some it) :
    ((L1L2.add (Chunked.handler .l1 now) (Std.handler .l2) c).eval now w tk).1 = .error (.app .keyExists) ∧
    ((L1L2.add (Chunked.handler .l1 now) (Std.handler .l2) c).eval now w tk).2.1 = [] ∧
    ((L1L2.add (Chunked.handler .l1 now) (Std.handler .l2) c).eval now w tk).2.2.1.l2 c.key =
      some ⟨c.data, c.flags, deadlineOf now c.exptime⟩ ∧
    (Spec.step now w.l2 (.store .add c)).2 = .ok :=
  let h := remnant_blocks_add now w tk c hl2 it hl1
  ⟨h.1, h.2.1, h.2.2, by rw [spec_add_absent now w.l2 c hl2]⟩

end Rend.Props.C02
