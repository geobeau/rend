/-
  The scheduler the concurrency theorems are about.  Connection `i` runs the program `body i`
  between `Lock()` and `Unlock()`; `adm c i` says whether the lock table lets `i` in when the
  configuration is `c`.  The schedulers for exclusive stripe locks (`Step1`, `Step1F`, `Step1T`) and
  for shared read locks (`StepR`) are written out separately and shown equivalent to instances
  (`step1_iff`, …), so what does not depend on the lock discipline — a lock is taken once, a lock
  holder is never blocked; no deadlock, for every discipline that admits a connection when nobody
  is inside a critical section (`hadm`) — is proved here, once.
-/
import Rend.Types
import Rend.Proofs.BytesLemmas

namespace Rend.Conc
open Rend

/-- A connection: before `Lock()`; inside its critical section, having emitted `evs`, with `p`
    left to run; after `Unlock()`, with its result and everything it emitted. -/
inductive TState (α : Type) where
  | idle
  | running (p : Prog OEv α) (evs : List OEv)
  | done (a : α) (evs : List OEv)

structure Conf (α : Type) where
  w : World
  ts : Nat → TState α

def Conf.set {α : Type} (c : Conf α) (i : Nat) (s : TState α) : Conf α :=
  { c with ts := fun j => if j = i then s else c.ts j }

def Conf.init {α : Type} (w : World) : Conf α := { w := w, ts := fun _ => .idle }

inductive Step where
  | acq (i : Nat)
  | act (i : Nat)
  | rel (i : Nat)

def acqOrder : List Step → List Nat
  | [] => []
  | .acq i :: rest => i :: acqOrder rest
  | _ :: rest => acqOrder rest

def OnlyBy (i : Nat) (sched : List Step) : Prop :=
  ∀ s ∈ sched, s = .act i ∨ s = .rel i

theorem set_self {α : Type} (c : Conf α) (i : Nat) (s : TState α) : (c.set i s).ts i = s := by
  simp [Conf.set]

theorem set_other {α : Type} (c : Conf α) (i j : Nat) (s : TState α) (h : j ≠ i) : (c.set i s).ts j = c.ts j := by
  simp [Conf.set, h]

theorem set_cases {α : Type} {c : Conf α} {i j : Nat} {s st : TState α} (h : (c.set i s).ts j = st) :
    (j = i ∧ s = st) ∨ (j ≠ i ∧ c.ts j = st) := by
  by_cases hji : j = i
  · subst hji
    rw [set_self] at h
    exact .inl ⟨rfl, h⟩
  · rw [set_other _ _ _ _ hji] at h
    exact .inr ⟨hji, h⟩

theorem set_w {α : Type} (c : Conf α) (i : Nat) (s : TState α) : (c.set i s).w = c.w := rfl

theorem zeros_len : (Bytes.zeros 16).length = 16 := Bytes.zeros_length 16

theorem foldl_acqOrder {β : Type} (g : β → Step → β) (f : β → Nat → β) (hacq : ∀ r i, g r (.acq i) = f r i)
    (hact : ∀ r i, g r (.act i) = r) (hrel : ∀ r i, g r (.rel i) = r) :
    ∀ (sched : List Step) (r : β), sched.foldl g r = (acqOrder sched).foldl f r
  | [], _ => rfl
  | .acq i :: rest, r => by
    simp only [List.foldl_cons, acqOrder, hacq]
    exact foldl_acqOrder g f hacq hact hrel rest _
  | .act i :: rest, r => by
    simp only [List.foldl_cons, acqOrder, hact]
    exact foldl_acqOrder g f hacq hact hrel rest _
  | .rel i :: rest, r => by
    simp only [List.foldl_cons, acqOrder, hrel]
    exact foldl_acqOrder g f hacq hact hrel rest _

/-- One scheduling step.  `acq`: `Lock()` succeeds when the lock table admits it.  `act`: the next
    backend request (answered by the backend at once), token draw or responder call of a connection
    inside its critical section.  `rel`: `Unlock()` when the section has returned.

    Every token draw yields `Bytes.zeros 16`, which is what `Prog.eval … []` draws: a section's
    reference run is `eval … []`.  All connections draw the same token; that `crypto/rand` tokens
    are distinct (which C05 assumes) is not modelled here. -/
inductive StepWith {α : Type} (now : Nat) (body : Nat → Prog OEv α) (adm : Conf α → Nat → Prop) :
    Conf α → Step → Conf α → Prop where
  | acq (c : Conf α) (i : Nat) : c.ts i = .idle → adm c i →
      StepWith now body adm c (.acq i) (c.set i (.running (body i) []))
  | call (c : Conf α) (i : Nat) (t : Tier) (r : Req) (k : Resp → Prog OEv α) (evs : List OEv) :
      c.ts i = .running (.call t r k) evs →
      StepWith now body adm c (.act i)
        (Conf.set { w := c.w.put t (Mc.exec now (c.w.get t) r).1, ts := c.ts } i
          (.running (k (Mc.exec now (c.w.get t) r).2) evs))
  | emit (c : Conf α) (i : Nat) (e : OEv) (p : Prog OEv α) (evs : List OEv) :
      c.ts i = .running (.emit e p) evs → StepWith now body adm c (.act i) (c.set i (.running p (evs ++ [e])))
  | draw (c : Conf α) (i : Nat) (k : Bytes → Prog OEv α) (evs : List OEv) :
      c.ts i = .running (.draw k) evs → StepWith now body adm c (.act i) (c.set i (.running (k (Bytes.zeros 16)) evs))
  | rel (c : Conf α) (i : Nat) (a : α) (evs : List OEv) :
      c.ts i = .running (.ret a) evs → StepWith now body adm c (.rel i) (c.set i (.done a evs))

inductive ExecWith {α : Type} (now : Nat) (body : Nat → Prog OEv α) (adm : Conf α → Nat → Prop) :
    Conf α → List Step → Conf α → Prop where
  | nil (c : Conf α) : ExecWith now body adm c [] c
  | cons (c c' c'' : Conf α) (s : Step) (rest : List Step) : StepWith now body adm c s c' →
      ExecWith now body adm c' rest c'' → ExecWith now body adm c (s :: rest) c''

/-- Exclusive stripe locks (write locks, or any lock in single-reader mode): nobody is inside a
    critical section of the same stripe. -/
def exclAdm {α : Type} (stripe : Nat → Nat) (c : Conf α) (i : Nat) : Prop :=
  ∀ j p evs, c.ts j = .running p evs → stripe j ≠ stripe i

/-- Shared read locks: whoever is inside on the same stripe is a reader, and so is the newcomer. -/
def sharedAdm {α : Type} (stripe : Nat → Nat) (read : Nat → Bool) (c : Conf α) (i : Nat) : Prop :=
  ∀ j p evs, c.ts j = .running p evs → stripe j = stripe i → read j = true ∧ read i = true

theorem exclAdm.shared {α : Type} {stripe : Nat → Nat} {c : Conf α} {i : Nat} (h : exclAdm stripe c i) (read : Nat → Bool) :
    sharedAdm stripe read c i :=
  fun j p evs hj hs => absurd hs (h j p evs hj)

section
variable {α : Type} {now : Nat} {body : Nat → Prog OEv α} {adm adm' : Conf α → Nat → Prop}

theorem StepWith.mono (h : ∀ c i, adm c i → adm' c i) {c c' : Conf α} {s : Step} (hs : StepWith now body adm c s c') :
    StepWith now body adm' c s c' := by
  cases hs with
  | acq i hi ha => exact .acq c i hi (h c i ha)
  | call i t r k evs hi => exact .call c i t r k evs hi
  | emit i e p evs hi => exact .emit c i e p evs hi
  | draw i k evs hi => exact .draw c i k evs hi
  | rel i a evs hi => exact .rel c i a evs hi

theorem ExecWith.mono (h : ∀ c i, adm c i → adm' c i) {c c' : Conf α} {sched : List Step}
    (hex : ExecWith now body adm c sched c') : ExecWith now body adm' c sched c' := by
  induction hex with
  | nil c => exact .nil c
  | cons c d e s rest hs _ ih => exact .cons c d e s rest (hs.mono h) ih

theorem ExecWith.append {c c' c'' : Conf α} {s1 s2 : List Step} (h1 : ExecWith now body adm c s1 c')
    (h2 : ExecWith now body adm c' s2 c'') : ExecWith now body adm c (s1 ++ s2) c'' := by
  induction h1 with
  | nil c => exact h2
  | cons c d e s rest hs _ ih => exact .cons c d _ s _ hs (ih h2)

theorem set_ne_idle (c : Conf α) (i j : Nat) (st : TState α) (hst : st ≠ .idle) (hj : c.ts j ≠ .idle) :
    (c.set i st).ts j ≠ .idle :=
  fun h => (set_cases h).elim (fun e => hst e.2) fun e => hj e.2

theorem set_excl {R : Nat → Nat → Prop} (hsymm : ∀ a b, R a b → R b a) {c : Conf α} {i : Nat} (st : TState α)
    (hold : ∀ a b p evs q evs', a ≠ b → c.ts a = .running p evs → c.ts b = .running q evs' → R a b)
    (hnew : ∀ j q evs, j ≠ i → c.ts j = .running q evs → R j i) :
    ∀ a b p evs q evs', a ≠ b → (c.set i st).ts a = .running p evs → (c.set i st).ts b = .running q evs' → R a b := by
  intro a b p evs q evs' hab ha hb
  rcases set_cases ha with ⟨rfl, _⟩ | ⟨hai, ha'⟩
  · rcases set_cases hb with ⟨rfl, _⟩ | ⟨hbi, hb'⟩
    · exact absurd rfl hab
    · exact hsymm _ _ (hnew b q evs' hbi hb')
  · rcases set_cases hb with ⟨rfl, _⟩ | ⟨_, hb'⟩
    · exact hnew a p evs hai ha'
    · exact hold a b p evs q evs' hab ha' hb'

theorem StepWith.not_idle {c c' : Conf α} {s : Step} (h : StepWith now body adm c s c') (j : Nat)
    (hj : c.ts j ≠ .idle) : c'.ts j ≠ .idle := by
  cases h <;> exact set_ne_idle _ _ _ _ nofun hj

theorem StepWith.acq_idle {c c' : Conf α} {i : Nat} (h : StepWith now body adm c (.acq i) c') :
    c.ts i = .idle ∧ c'.ts i ≠ .idle := by
  cases h with
  | acq _ hidle _ => exact ⟨hidle, by rw [set_self]; nofun⟩

theorem ExecWith.acqOrder_nodup {c c' : Conf α} {sched : List Step} (hex : ExecWith now body adm c sched c') :
    (acqOrder sched).Nodup ∧ (∀ i ∈ acqOrder sched, c.ts i = .idle ∧ c'.ts i ≠ .idle) ∧
    (∀ j, c.ts j ≠ .idle → c'.ts j ≠ .idle) := by
  induction hex with
  | nil c => exact ⟨List.nodup_nil, fun i hi => (nomatch hi), fun _ h => h⟩
  | cons c c1 c2 s rest hs _ ih =>
    obtain ⟨n, m, k⟩ := ih
    have keep := hs.not_idle
    -- whoever takes a lock later is idle now: no step makes a connection idle
    have later : ∀ j ∈ acqOrder rest, c.ts j = .idle ∧ c2.ts j ≠ .idle := fun j hj => by
      refine ⟨?_, (m j hj).2⟩
      cases hc : c.ts j with
      | idle => rfl
      | _ => exact absurd (m j hj).1 (keep j (by rw [hc]; nofun))
    cases s with
    | acq i =>
      obtain ⟨a, b⟩ := hs.acq_idle
      refine ⟨List.nodup_cons.mpr ⟨fun hmem => b (m i hmem).1, n⟩, fun j hj => ?_, fun j hj => k j (keep j hj)⟩
      rcases List.mem_cons.mp hj with rfl | hj
      · exact ⟨a, k j b⟩
      · exact later j hj
    | act i => exact ⟨n, later, fun j hj => k j (keep j hj)⟩
    | rel i => exact ⟨n, later, fun j hj => k j (keep j hj)⟩

theorem ExecWith.done_of_quiet {c c' : Conf α} {sched : List Step} (hex : ExecWith now body adm c sched c')
    (hquiet : ∀ i p evs, c'.ts i ≠ .running p evs) {i : Nat} (hi : i ∈ acqOrder sched) :
    ∃ a evs, c'.ts i = .done a evs := by
  cases hc : c'.ts i with
  | idle => exact absurd hc (hex.acqOrder_nodup.2.1 i hi).2
  | running p evs => exact absurd hc (hquiet i p evs)
  | done a evs => exact ⟨a, evs, rfl⟩

theorem StepWith.holder_steps (c : Conf α) (i : Nat) (p : Prog OEv α) (evs : List OEv) (h : c.ts i = .running p evs) :
    ∃ s c', StepWith now body adm c s c' := by
  cases p with
  | ret a => exact ⟨_, _, .rel c i a evs h⟩
  | call t r k => exact ⟨_, _, .call c i t r k evs h⟩
  | draw k => exact ⟨_, _, .draw c i k evs h⟩
  | emit e p => exact ⟨_, _, .emit c i e p evs h⟩

theorem OnlyBy.cons_act {i : Nat} {sched : List Step} (h : OnlyBy i sched) : OnlyBy i (.act i :: sched) :=
  fun s hs => (List.mem_cons.mp hs).elim (fun e => .inl e) (h s)

theorem ExecWith.holder_finishes (i : Nat) : ∀ (p : Prog OEv α) (c : Conf α) (evs : List OEv), c.ts i = .running p evs →
    ∃ sched c' a evs', ExecWith now body adm c sched c' ∧ OnlyBy i sched ∧ c'.ts i = .done a evs'
  | .ret a, c, evs, h =>
    ⟨[.rel i], _, a, evs, .cons _ _ _ _ _ (.rel c i a evs h) (.nil _),
      fun _ hs => .inr (List.mem_singleton.mp hs), set_self _ _ _⟩
  | .call t r k, c, evs, h =>
    have ⟨sched, c', a, evs', he, ho, hd⟩ := holder_finishes i (k _) (Conf.set _ i _) evs (set_self _ _ _)
    ⟨.act i :: sched, c', a, evs', .cons _ _ _ _ _ (.call c i t r k evs h) he, ho.cons_act, hd⟩
  | .draw k, c, evs, h =>
    have ⟨sched, c', a, evs', he, ho, hd⟩ := holder_finishes i (k _) (c.set i _) evs (set_self _ _ _)
    ⟨.act i :: sched, c', a, evs', .cons _ _ _ _ _ (.draw c i k evs h) he, ho.cons_act, hd⟩
  | .emit e p, c, evs, h =>
    have ⟨sched, c', a, evs', he, ho, hd⟩ := holder_finishes i p (c.set i _) (evs ++ [e]) (set_self _ _ _)
    ⟨.act i :: sched, c', a, evs', .cons _ _ _ _ _ (.emit c i e p evs h) he, ho.cons_act, hd⟩

theorem StepWith.no_deadlock (hadm : ∀ c i, (∀ j p evs, c.ts j ≠ .running p evs) → adm c i) (c : Conf α)
    (h : ∃ i, ∀ a evs, c.ts i ≠ .done a evs) : ∃ s c', StepWith now body adm c s c' := by
  by_cases hr : ∃ j p evs, c.ts j = .running p evs
  · obtain ⟨j, p, evs, hj⟩ := hr
    exact StepWith.holder_steps c j p evs hj
  · obtain ⟨i, hi⟩ := h
    have hnone : ∀ j p evs, c.ts j ≠ .running p evs := fun j p evs hj => hr ⟨j, p, evs, hj⟩
    have hidle : c.ts i = .idle := by
      cases hc : c.ts i with
      | idle => rfl
      | running p evs => exact absurd hc (hnone i p evs)
      | done a evs => exact absurd hc (hi a evs)
    exact ⟨.acq i, _, .acq c i hidle (hadm c i hnone)⟩

/-- What `holder_finishes` needs stays true however long the holder is kept waiting. -/
theorem StepWith.others_keep_holder {c c' : Conf α} {s : Step} {i : Nat} {p : Prog OEv α} {evs : List OEv}
    (h : c.ts i = .running p evs) (hs : StepWith now body adm c s c') (hne : s ≠ .act i ∧ s ≠ .rel i) :
    c'.ts i = .running p evs := by
  have other : ∀ (c0 : Conf α) (j : Nat) (st : TState α), c0.ts = c.ts → j ≠ i → (c0.set j st).ts i = .running p evs :=
    fun c0 j st h0 hj => by rw [set_other _ _ _ _ (Ne.symm hj), h0, h]
  cases hs with
  | acq j hj _ => exact other c j _ rfl fun e => by rw [e, h] at hj; cases hj
  | call j t r k evs' hj => exact other _ j _ rfl fun e => hne.1 (e ▸ rfl)
  | emit j e q evs' hj => exact other c j _ rfl fun e => hne.1 (e ▸ rfl)
  | draw j k evs' hj => exact other c j _ rfl fun e => hne.1 (e ▸ rfl)
  | rel j a evs' hj => exact other c j _ rfl fun e => hne.2 (e ▸ rfl)

end

end Rend.Conc
