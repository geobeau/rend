/-
  A backend request answers from, and changes, only the entry of its own key: in every branch of
  `Mc.exec` the store is read through `look now r.key` alone and comes back as it was or `set` at
  `r.key`, so `exec_other` and `exec_congr` are a sweep over the operations.
-/
import Rend.Spec

namespace Rend

theorem Store.look_congr {s s' : Store} {k : Bytes} (now : Nat) (h : s k = s' k) : s.look now k = s'.look now k := by
  simp [Store.look, h]

namespace Mc

theorem exec_noop (now : Nat) (s : Store) {r : Req} (h : r.op = .noop) : Mc.exec now s r = (s, .ok) := by
  simp [Mc.exec, h]

theorem exec_other (now : Nat) (s : Store) (r : Req) {k : Bytes} (h : k ≠ r.key) : (Mc.exec now s r).1 k = s k := by
  unfold Mc.exec
  cases r.op <;> simp only <;> (try split) <;> simp [Store.set, h]

theorem exec_congr (now : Nat) {s s' : Store} (r : Req) (h : s r.key = s' r.key) :
    (Mc.exec now s r).2 = (Mc.exec now s' r).2 ∧ (Mc.exec now s r).1 r.key = (Mc.exec now s' r).1 r.key := by
  unfold Mc.exec
  rw [Store.look_congr now h]
  cases r.op <;> simp only <;> (try split) <;> simp [Store.set, h]

end Mc
end Rend
