/-
  What the responders write, read back by the strict reply decoders.  A binary response is a sequence
  of frames (`encFrame`); the decoder inverts the encoding of any sequence of frames whose fields fit
  the header (`BinFrame.OK`, `decodeBin_enc`), and `binRespond` writes the frames `respFrames` lists.
  For text replies: how the decoder takes a line up to its CRLF (`takeCrlfLine_ok`).
-/
import Rend.Wire.Decode
import Rend.Wire.Respond
import Rend.Proofs.WireLemmas

namespace Rend.Wire
open Rend

def encFrame (f : BinFrame) : Bytes :=
  resHeader f.opcode f.key.length f.extras.length f.status (f.extras.length + f.key.length + f.value.length) f.opq ++
    (f.extras ++ (f.key ++ f.value))

structure BinFrame.OK (f : BinFrame) : Prop where
  opcode : f.opcode < 256
  key : f.key.length < 65536
  extras : f.extras.length < 256
  status : f.status < 65536
  total : f.extras.length + f.key.length + f.value.length < 4294967296
  opq : f.opq < 4294967296

theorem BinFrame.mk_ok {op st opq : Nat} {ext key val : Bytes} (hop : op < 256) (hst : st < 65536)
    (ho : opq < 4294967296) (hk : key.length < 65536) (he : ext.length < 256)
    (ht : ext.length + key.length + val.length < 4294967296) : (BinFrame.mk op st opq ext key val).OK :=
  ⟨hop, hk, he, hst, ht, ho⟩

theorem encFrame_length (f : BinFrame) :
    (encFrame f).length = 24 + (f.extras.length + f.key.length + f.value.length) := by
  simp only [encFrame, List.length_append, Nat.add_assoc]
  rfl

theorem decodeBinFrame_enc (f : BinFrame) (hf : f.OK) (rest : Bytes) :
    decodeBinFrame (encFrame f ++ rest) = some (f, rest) := by
  obtain ⟨h0, h1, h2, h3, h4, h5, h6, h7, h8⟩ := hdr24_fields Gen.binprot_MagicResponse f.opcode f.key.length
    f.extras.length f.status (f.extras.length + f.key.length + f.value.length) f.opq
    (f.extras ++ (f.key ++ f.value) ++ rest) (by decide) hf.opcode hf.key hf.extras hf.status hf.total hf.opq
  have hb : encFrame f ++ rest = hdr24 Gen.binprot_MagicResponse f.opcode f.key.length f.extras.length
      f.status (f.extras.length + f.key.length + f.value.length) f.opq ++ (f.extras ++ (f.key ++ f.value) ++ rest) := by
    simp only [encFrame, resHeader_eq, List.append_assoc]
  have hn : (f.extras ++ (f.key ++ f.value)).length = f.extras.length + f.key.length + f.value.length := by
    simp only [List.length_append, Nat.add_assoc]
  have hv : (f.extras ++ (f.key ++ f.value)).drop (f.extras.length + f.key.length) = f.value := by
    rw [← List.drop_drop, List.drop_left, List.drop_left]
  rw [hb]
  simp only [decodeBinFrame, h0, h1, h2, h3, h4, h5, h6, h7, h8]
  rw [if_neg (by omega), if_neg (by simp), if_neg (by omega), if_neg (by rw [List.length_append, hn]; omega),
    List.take_left' hn, hv, List.take_left, List.drop_left, List.take_left, ← List.drop_drop, h7, List.drop_left' hn]

/-- One unit of fuel per byte is enough: every frame takes at least its header. -/
theorem decodeBinFrames_enc (fs : List BinFrame) (h : ∀ f ∈ fs, f.OK) :
    ∀ fuel, (fs.flatMap encFrame).length < fuel → decodeBinFrames fuel (fs.flatMap encFrame) = some fs := by
  induction fs with
  | nil =>
    intro fuel hf
    obtain ⟨n, rfl⟩ : ∃ n, fuel = n + 1 := ⟨fuel - 1, by omega⟩
    rfl
  | cons f fs ih =>
    intro fuel hf
    obtain ⟨n, rfl⟩ : ∃ n, fuel = n + 1 := ⟨fuel - 1, by omega⟩
    have hne : (encFrame f ++ fs.flatMap encFrame).isEmpty = false := rfl
    rw [List.flatMap_cons, List.length_append, encFrame_length] at hf
    rw [List.flatMap_cons, decodeBinFrames, hne, decodeBinFrame_enc f (h f List.mem_cons_self)]
    simp only [ih (fun g hg => h g (List.mem_cons_of_mem _ hg)) n (by omega),
      Bool.false_eq_true, if_false, Option.map_some]

theorem decodeBin_enc (fs : List BinFrame) (h : ∀ f ∈ fs, f.OK) : decodeBin (fs.flatMap encFrame) = some fs :=
  decodeBinFrames_enc fs h _ (Nat.lt_succ_self _)

theorem errorToCode_lt (e : Err) : errorToCode e < 65536 := by
  have htab : ∀ p ∈ Gen.errorToCodeTable, p.2 < 65536 := by decide
  unfold errorToCode
  split
  · rename_i c h
    exact htab _ (List.mem_of_find?_eq_some h)
  · decide

theorem reqTypeToOpcode_lt (rt : ReqType) (q : Bool) : reqTypeToOpcode rt q < 256 := by
  have htab : ∀ p ∈ Gen.reqTypeToOpcodeTable, p.2.2 < 256 := by decide
  unfold reqTypeToOpcode
  split
  · rename_i c h
    exact htab _ (List.mem_of_find?_eq_some h)
  · decide

def errFrame (opq : Nat) (rt : ReqType) (e : Err) (q : Bool) : BinFrame :=
  ⟨reqTypeToOpcode rt q, errorToCode e, opq, [], [], []⟩

theorem encFrame_errFrame (opq : Nat) (rt : ReqType) (e : Err) (q : Bool) :
    encFrame (errFrame opq rt e q) = binError opq rt e q := rfl

theorem errFrame_ok (opq : Nat) (rt : ReqType) (e : Err) (q : Bool) (ho : opq < 4294967296) : (errFrame opq rt e q).OK :=
  BinFrame.mk_ok (reqTypeToOpcode_lt _ _) (errorToCode_lt _) ho (by decide) (by decide) (by decide)

def getFrames (r : GetResp) (rt : ReqType) (hit : BinFrame) : List BinFrame :=
  if r.miss then (if r.quiet then [] else [errFrame r.opq rt .keyNotFound false]) else [hit]

theorem mem_getFrames {r : GetResp} {rt : ReqType} {hit f : BinFrame} (h : f ∈ getFrames r rt hit) :
    f = errFrame r.opq rt .keyNotFound false ∨ f = hit := by
  unfold getFrames at h
  split at h
  · split at h
    · cases h
    · exact Or.inl (List.mem_singleton.mp h)
  · exact Or.inr (List.mem_singleton.mp h)

theorem getFrames_length (r : GetResp) (rt : ReqType) (hit : BinFrame) : (getFrames r rt hit).length ≤ 1 := by
  unfold getFrames
  split
  · split
    · exact Nat.zero_le _
    · exact Nat.le_refl _
  · exact Nat.le_refl _

theorem flatMap_getFrames (r : GetResp) (rt : ReqType) (hit : BinFrame) :
    (getFrames r rt hit).flatMap encFrame =
      if r.miss then (if r.quiet then [] else binError r.opq rt .keyNotFound false) else encFrame hit := by
  unfold getFrames
  split
  · split
    · rfl
    · exact (List.flatMap_singleton _ _).trans (encFrame_errFrame _ _ _ _)
  · exact List.flatMap_singleton _ _

def plainFrame (op opq : Nat) (value : Bytes := []) : BinFrame := ⟨op, 0, opq, [], [], value⟩

theorem plainFrame_ok {op opq : Nat} {v : Bytes} (hop : op < 256) (ho : opq < 4294967296) (hv : v.length < 4294967296) :
    (plainFrame op opq v).OK :=
  BinFrame.mk_ok hop (by decide) ho (by decide) (by decide) (by simpa using hv)

theorem encFrame_hit (op opq : Nat) (ext data : Bytes) :
    encFrame ⟨op, 0, opq, ext, [], data⟩ = okHeader op 0 ext.length (data.length + ext.length) opq ++ (ext ++ data) := by
  simp [encFrame, okHeader, Nat.add_comm]

theorem hitFrame_ok {op opq n : Nat} {ext data : Bytes} (hop : op < 256) (ho : opq < 4294967296) (he : ext.length ≤ n)
    (hn : n < 256) (hd : data.length + n < 4294967296) : (BinFrame.mk op 0 opq ext [] data).OK :=
  BinFrame.mk_ok hop (by decide) ho (by decide) (Nat.lt_of_le_of_lt he hn)
    (by simp only [List.length_nil]; omega)

def respFrames : REv → List BinFrame
  | .stored k o q => if q then [] else [plainFrame (storeOpcode k) o]
  | .get r => getFrames r .get ⟨Gen.binprot_OpcodeGet, 0, r.opq, Bytes.be32 r.flags, [], r.data⟩
  | .getEnd o n => if n then [plainFrame Gen.binprot_OpcodeNoop o] else []
  | .gat r => getFrames r .gat ⟨Gen.binprot_OpcodeGat, 0, r.opq, Bytes.be32 r.flags, [], r.data⟩
  | .getE r => getFrames r .getE ⟨Gen.binprot_OpcodeGetE, 0, r.opq, Bytes.be32 r.flags ++ Bytes.be32 r.exptime, [], r.data⟩
  | .deleted o => [plainFrame Gen.binprot_OpcodeDelete o]
  | .touched o => [plainFrame Gen.binprot_OpcodeTouch o]
  | .noop o => [plainFrame Gen.binprot_OpcodeNoop o]
  | .quit o q => if q then [] else [plainFrame Gen.binprot_OpcodeQuit o]
  | .version o => [plainFrame Gen.binprot_OpcodeVersion o Gen.common_VersionString_bytes]
  -- the key of the first stat frame is "version"
  | .stat o => [⟨Gen.binprot_OpcodeStat, 0, o, [], [118, 101, 114, 115, 105, 111, 110], Gen.common_Version_bytes⟩,
      plainFrame Gen.binprot_OpcodeStat o]
  | .error o rt e q => [errFrame o rt e q]

theorem respFrames_length (e : REv) : (respFrames e).length ≤ 2 := by
  cases e with
  | get r | gat r | getE r => exact Nat.le_succ_of_le (getFrames_length _ _ _)
  | stored k o q | getEnd o q | quit o q => cases q <;> simp [respFrames]
  | _ => simp [respFrames]

theorem binRespond_eq (e : REv) : binRespond e = (respFrames e).flatMap encFrame := by
  cases e with
  | stored k o q | getEnd o q | quit o q => cases q <;> rfl
  | get r | gat r | getE r =>
    rw [respFrames, flatMap_getFrames, encFrame_hit]
    simp only [binRespond, binGetCommon, List.append_assoc]
    rfl
  | stat o => simp [binRespond, respFrames, encFrame, plainFrame, okHeader]
  | _ => rfl

/-- Nothing is asked of `tl`: the pattern `13 :: 10 :: _` of `takeCrlfLine` looks two bytes ahead, but
    the side condition of its last equation is discharged by the first byte alone. -/
theorem takeCrlfLine_cons (acc : Bytes) {x : UInt8} (tl : Bytes) (hx : x ≠ 13) :
    takeCrlfLine acc (x :: tl) = takeCrlfLine (x :: acc) tl := by
  rw [takeCrlfLine]
  exact fun _ h _ => hx h

theorem takeCrlfLine_ok (acc a rest : Bytes) (ha : ∀ b ∈ a, b ≠ 13) :
    takeCrlfLine acc (a ++ 13 :: 10 :: rest) = some (acc.reverse ++ a, rest) := by
  induction a generalizing acc with
  | nil => simp [takeCrlfLine]
  | cons x xs ih =>
    rw [List.cons_append, takeCrlfLine_cons acc _ (ha x List.mem_cons_self),
      ih (x :: acc) fun b hb => ha b (List.mem_cons_of_mem _ hb)]
    simp

end Rend.Wire
