/-
  Progress over the scheduler semantics, for the two lock disciplines (`Conc.Step1`: exclusive
  locks, `Conc.StepR`: shared read locks): the facts of Sched.lean, carried over by `step1_iff` /
  `stepR_iff`.  That a critical section holds one lock, taken at its start and released at its end,
  is built into the step relation (`StepWith`), so a connection inside its section is never blocked:
  it can run to its end by its own steps alone (`holder_finishes`) and the steps of the others leave
  it where it is (`others_keep_holder`); hence no configuration with unfinished connections is stuck
  (`no_deadlock`).  Nothing is assumed or proved about fairness: no theorem says that a lock IS
  released.
-/
import Rend.Proofs.SerialMR

namespace Rend.Conc
open Rend

theorem Exec.append {α : Type} {now : Nat} {thr : Nat → Thread α} {c c' c'' : Conf α} {s1 s2 : List Step}
    (h1 : Exec now thr c s1 c') (h2 : Exec now thr c' s2 c'') : Exec now thr c (s1 ++ s2) c'' :=
  exec_iff.mpr ((exec_iff.mp h1).append (exec_iff.mp h2))

theorem ExecR.append {now : Nat} {thr : Nat → CThread} {c c' c'' : Conf (HRes Unit)} {s1 s2 : List Step}
    (h1 : ExecR now thr c s1 c') (h2 : ExecR now thr c' s2 c'') : ExecR now thr c (s1 ++ s2) c'' :=
  execR_iff.mpr ((execR_iff.mp h1).append (execR_iff.mp h2))

theorem holder_finishes {α : Type} (now : Nat) (thr : Nat → Thread α) (i : Nat) :
    ∀ (p : Prog OEv α) (c : Conf α) (evs : List OEv), c.ts i = .running p evs →
      ∃ sched c' a evs', Exec now thr c sched c' ∧ OnlyBy i sched ∧ c'.ts i = .done a evs' :=
  fun p c evs h =>
    have ⟨sched, c', a, evs', he, r⟩ := ExecWith.holder_finishes i p c evs h
    ⟨sched, c', a, evs', exec_iff.mpr he, r⟩

theorem idle_acquires {α : Type} (now : Nat) (thr : Nat → Thread α) (c : Conf α) (i : Nat) (h : c.ts i = .idle)
    (hfree : ∀ j p evs, c.ts j = .running p evs → (thr j).stripe ≠ (thr i).stripe) :
    ∃ c', Step1 now thr c (.acq i) c' :=
  ⟨_, Step1.acq c i h hfree⟩

theorem no_deadlock {α : Type} (now : Nat) (thr : Nat → Thread α) (c : Conf α)
    (h : ∃ i, ∀ a evs, c.ts i ≠ .done a evs) : ∃ s c', Step1 now thr c s c' :=
  have ⟨s, c', hs⟩ := StepWith.no_deadlock (fun _ _ hn j p evs hj => absurd hj (hn j p evs)) c h
  ⟨s, c', step1_iff.mpr hs⟩

theorem others_keep_holder {α : Type} (now : Nat) (thr : Nat → Thread α) (c c' : Conf α) (s : Step) (i : Nat)
    (p : Prog OEv α) (evs : List OEv) (h : c.ts i = .running p evs) (hs : Step1 now thr c s c')
    (hne : s ≠ .act i ∧ s ≠ .rel i) : c'.ts i = .running p evs :=
  (step1_iff.mp hs).others_keep_holder h hne

theorem holder_finishesR (now : Nat) (thr : Nat → CThread) (i : Nat) :
    ∀ (p : Prog OEv (HRes Unit)) (c : Conf (HRes Unit)) (evs : List OEv), c.ts i = .running p evs →
      ∃ sched c' a evs', ExecR now thr c sched c' ∧ OnlyBy i sched ∧ c'.ts i = .done a evs' :=
  fun p c evs h =>
    have ⟨sched, c', a, evs', he, r⟩ := ExecWith.holder_finishes i p c evs h
    ⟨sched, c', a, evs', execR_iff.mpr he, r⟩

theorem no_deadlockR (now : Nat) (thr : Nat → CThread) (c : Conf (HRes Unit))
    (h : ∃ i, ∀ a evs, c.ts i ≠ .done a evs) : ∃ s c', StepR now thr c s c' :=
  have ⟨s, c', hs⟩ := StepWith.no_deadlock (fun _ _ hn j p evs hj => absurd hj (hn j p evs)) c h
  ⟨s, c', stepR_iff.mpr hs⟩

end Rend.Conc
