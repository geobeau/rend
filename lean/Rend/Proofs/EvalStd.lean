/-
  What the fault-free run (`Prog.eval`) returns, in closed form: for the orchestrators'
  combinators (`andThen`, `reply`, `emitGets`, `ackOr`, `twoTier`, `getVia`), for every operation
  of the pass-through handler, whose answers and effects are those of `mcStore`, `mcDelete`,
  `mcTouch` on its tier, and for the two get-and-touch methods over it.
-/
import Rend.Proofs.Eval
import Rend.Proofs.TwoTier
import Rend.Proofs.McOps

namespace Rend

section
variable {α β : Type} {now : Nat} {p : OProg (HRes α)} {w w1 : World} {tk tk1 : List Bytes} {r : HRes α}

theorem eval_andThen_ev {evs : List OEv} (hp : p.eval now w tk = (r, evs, w1, tk1))
    (hr : r ≠ .error .panic ∧ r ≠ .error .crash) (f : HRes α → OProg (HRes β)) :
    (andThen p f).eval now w tk =
      (((f r).eval now w1 tk1).1, evs ++ ((f r).eval now w1 tk1).2.1, ((f r).eval now w1 tk1).2.2) := by
  unfold andThen
  rw [Prog.eval_bind, hp]
  -- `simp` takes the last arm of `andThen`'s `match` once `r ≠ …` for the first two are hypotheses
  obtain ⟨h1, h2⟩ := hr
  simp only

theorem eval_andThen_of (hp : p.eval now w tk = (r, [], w1, tk1)) (hr : r ≠ .error .panic ∧ r ≠ .error .crash)
    (f : HRes α → OProg (HRes β)) : (andThen p f).eval now w tk = (f r).eval now w1 tk1 :=
  eval_andThen_ev hp hr f

end

theorem res_ne_panic (b : Bool) (e : Err) :
    (if b then (.ok () : HRes Unit) else .error (.app e)) ≠ .error .panic ∧
    (if b then (.ok () : HRes Unit) else .error (.app e)) ≠ .error .crash := by
  cases b <;> simp

@[simp] theorem eval_reply (now : Nat) (e : REv) (w : World) (tk : List Bytes) :
    (reply e).eval now w tk = (.ok (), [.resp e], w, tk) := by
  simp [reply, respond, Prog.eval_bind]

theorem eval_ackOr_of {tol : HRes Unit → Bool} {r1 : HRes Unit} (h : r1 = .ok () ∨ tol r1 = true)
    (comp : Option (OProg (HRes Unit))) (ev : REv) (now : Nat) (w : World) (tk : List Bytes) :
    (ackOr tol comp ev r1).eval now w tk = (.ok (), [.resp ev], w, tk) := by
  unfold ackOr
  rcases h with rfl | h
  · split <;> exact eval_reply ..
  · rw [if_pos h]
    exact eval_reply ..

theorem eval_oneTier_of {op : OProg (HRes Unit)} {now : Nat} {w w1 : World} {tk tk1 : List Bytes} {ok : Bool} {e : Err}
    (h : op.eval now w tk = (if ok then .ok () else .error (.app e), [], w1, tk1)) (ev : REv) :
    (oneTier op ev).eval now w tk = if ok then (.ok (), [.resp ev], w1, tk1) else (.error (.app e), [], w1, tk1) := by
  unfold oneTier
  rw [eval_andThen_of h (res_ne_panic _ _)]
  cases ok
  · rfl
  · exact eval_reply ..

theorem eval_emitGets_map(now : Nat) (w : World) (tk : List Bytes) (rs : List GetResp) :
    (emitGets rs).eval now w tk = ((), rs.map (fun r => OEv.resp (.get r)), w, tk) := by
  induction rs with
  | nil => rfl
  | cons r rs ih => simp [emitGets, respond, Prog.eval_bind, ih]

theorem eval_emitGetEs (now : Nat) (w : World) (tk : List Bytes) (rs : List GetResp) :
    (emitGetEs rs).eval now w tk = ((), rs.map (fun r => OEv.resp (.getE r)), w, tk) := by
  induction rs with
  | nil => rfl
  | cons r rs ih => simp [emitGetEs, respond, Prog.eval_bind, ih]

theorem Std.handler_store {ε} (t : Tier) : (Std.handler (ε := ε) t).store = Std.store t := rfl

theorem eval_stdCall {ε : Type} (now : Nat) (t : Tier) (r : Req) (dec : Resp → HRes Unit) (w : World) (tk : List Bytes) :
    (Std.call (ε := ε) t r dec).eval now w tk = (dec (Mc.exec now (w.get t) r).2, [], w.put t (Mc.exec now (w.get t) r).1, tk) :=
  rfl

section
variable (now : Nat) (t : Tier) (w : World) (tk : List Bytes)

theorem eval_stdCall_of {r : Req} {s' : Store} {b : Bool} {code : Nat} {e : Err} (p : Bool)
    (h : Mc.exec now (w.get t) r = (s', if b then .ok else .status code)) (hc : b = false → decodeError code = some e) :
    (Std.call (ε := OEv) t r (stdRes p)).eval now w tk = (if b then .ok () else .error (.app e), [], w.put t s', tk) := by
  rw [eval_stdCall, h]
  cases b with
  | true => rfl
  | false => simp [stdRes, hc rfl]

theorem eval_std_store (k : SetKind) (c : SetCmd) :
    (Std.store (ε := OEv) t k c).eval now w tk =
      (if (mcStore now (w.get t) k c).2 then .ok () else .error (.app (missErr k)), [],
       w.put t (mcStore now (w.get t) k c).1, tk) := by
  rw [Std.store_eq_call]
  exact eval_stdCall_of now t w tk true (mc_exec_store ..) fun h => decode_fail k (mcStore_refused h).2

theorem eval_std_delete (c : KeyCmd) :
    ((Std.handler (ε := OEv) t).delete c).eval now w tk =
      (if (mcDelete now (w.get t) c.key).2 then .ok () else .error (.app .keyNotFound), [],
       w.put t (mcDelete now (w.get t) c.key).1, tk) := by
  show (Std.simple t { op := .delete, key := c.key }).eval now w tk = _
  rw [Std.simple_eq_call]
  exact eval_stdCall_of now t w tk false (mc_exec_delete ..) fun _ => decode_notFound

theorem eval_std_touch (c : KeyCmd) :
    ((Std.handler (ε := OEv) t).touch c).eval now w tk =
      (if (mcTouch now (w.get t) c.key c.exptime).2 then .ok () else .error (.app .keyNotFound), [],
       w.put t (mcTouch now (w.get t) c.key c.exptime).1, tk) := by
  show (Std.simple t { op := .touch, key := c.key, exptime := c.exptime }).eval now w tk = _
  rw [Std.simple_eq_call]
  exact eval_stdCall_of now t w tk false (mc_exec_touch ..) fun _ => decode_notFound

def stdGatResp (c : KeyCmd) (held : Option Item) : GetResp :=
  match held with
  | some it => { key := c.key, data := it.data, opq := c.opq, flags := it.flags }
  | none => { key := c.key, opq := c.opq, miss := true }

theorem eval_std_gat (c : KeyCmd) :
    ((Std.handler (ε := OEv) t).gat c).eval now w tk =
      (.ok (stdGatResp c ((w.get t).look now c.key)), [], w.put t (mcTouch now (w.get t) c.key c.exptime).1, tk) := by
  simp only [Std.handler, Std.gat, Prog.eval_bind, Prog.eval_req, mc_exec_gat]
  cases (w.get t).look now c.key <;> simp [Std.getLocal, decode_notFound, stdGatResp]

def stdGetResp (now : Nat) (s : Store) (withExp : Bool) (g : GetKey) : GetResp :=
  match s.look now g.key with
  | some it => { key := g.key, data := it.data, opq := g.opq, flags := it.flags,
                 exptime := if withExp then remaining now it else 0, miss := false, quiet := g.quiet }
  | none => { key := g.key, opq := g.opq, miss := true, quiet := g.quiet }

theorem eval_std_getLoop (withExp : Bool) : ∀ ks : List GetKey,
    (Std.getLoop (ε := OEv) t (if withExp then .gete else .get) ks).eval now w tk =
      ((ks.map (stdGetResp now (w.get t) withExp), none), [], w, tk)
  | [] => rfl
  | g :: rest => by
    rw [Std.getLoop, Prog.eval_bind, Prog.eval_req, mc_exec_get]
    cases h : (w.get t).look now g.key <;>
      simp [Std.getLocal, decode_notFound, eval_std_getLoop withExp rest, stdGetResp, h, Prog.eval_bind]

theorem eval_std_getLoop_get (ks : List GetKey) :
    (Std.getLoop (ε := OEv) t .get ks).eval now w tk = ((ks.map (stdGetResp now (w.get t) false), none), [], w, tk) :=
  eval_std_getLoop now t w tk false ks

theorem eval_std_getLoop_gete (ks : List GetKey) :
    (Std.getLoop (ε := OEv) t .gete ks).eval now w tk = ((ks.map (stdGetResp now (w.get t) true), none), [], w, tk) :=
  eval_std_getLoop now t w tk true ks

variable {β : Type} (f : HRes Unit → OProg (HRes β))

theorem eval_andThen_store (k : SetKind) (c : SetCmd) :
    (andThen ((Std.handler t).store k c) f).eval now w tk =
      (f (if (mcStore now (w.get t) k c).2 then .ok () else .error (.app (missErr k)))).eval now
        (w.put t (mcStore now (w.get t) k c).1) tk :=
  eval_andThen_of (eval_std_store now t w tk k c) (res_ne_panic _ _) f

theorem eval_andThen_touch (c : KeyCmd) :
    (andThen ((Std.handler t).touch c) f).eval now w tk =
      (f (if (mcTouch now (w.get t) c.key c.exptime).2 then .ok () else .error (.app .keyNotFound))).eval now
        (w.put t (mcTouch now (w.get t) c.key c.exptime).1) tk :=
  eval_andThen_of (eval_std_touch now t w tk c) (res_ne_panic _ _) f

theorem eval_andThen_gat (c : KeyCmd) (f : HRes GetResp → OProg (HRes β)) :
    (andThen ((Std.handler t).gat c) f).eval now w tk =
      (f (.ok (stdGatResp c ((w.get t).look now c.key)))).eval now (w.put t (mcTouch now (w.get t) c.key c.exptime).1) tk :=
  eval_andThen_of (eval_std_gat now t w tk c) ⟨nofun, nofun⟩ f

end

/-- `hc1`: covers only a refusal by L1 (after L2's success) that the method tolerates. -/
theorem eval_twoTier_of (now : Nat) (w : World) (tk : List Bytes) (r2 r1 : Req) (tol : HRes Unit → Bool)
    (comp : Option (OProg (HRes Unit))) (ev : REv) {s2 s1 : Store} {b2 b1 : Bool} {c2 c1 : Nat} {e2 e1 : Err} (p2 p1 : Bool)
    (h2 : Mc.exec now w.l2 r2 = (s2, if b2 then .ok else .status c2)) (hc2 : b2 = false → decodeError c2 = some e2)
    (h1 : Mc.exec now w.l1 r1 = (s1, if b1 then .ok else .status c1))
    (hc1 : b2 = true → b1 = false → decodeError c1 = some e1 ∧ tol (.error (.app e1)) = true) :
    (twoTier (Std.call .l2 r2 (stdRes p2)) (Std.call .l1 r1 (stdRes p1)) tol comp ev).eval now w tk =
      if b2 then (.ok (), [.resp ev], { l1 := s1, l2 := s2 }, tk) else (.error (.app e2), [], w.put .l2 s2, tk) := by
  unfold twoTier
  rw [eval_andThen_of (eval_stdCall_of now .l2 w tk p2 h2 hc2) (res_ne_panic _ _)]
  cases b2 with
  | false => rfl
  | true =>
    simp only [if_true]
    rw [eval_andThen_of (eval_stdCall_of now .l1 (w.put .l2 s2) tk p1 h1 fun h => (hc1 rfl h).1) (res_ne_panic _ _)]
    refine eval_ackOr_of ?_ comp ev now _ tk
    cases b1 with
    | true => exact .inl rfl
    | false => exact .inr (hc1 rfl rfl).2

/-- L2's answer as it is forwarded to the client (`L1L2.backfill`): without the expiry. -/
def fwdResp (r : GetResp) : GetResp :=
  { key := r.key, flags := r.flags, data := r.data, miss := r.miss, opq := r.opq, quiet := r.quiet }

def l1Live (now : Nat) (s : Store) (g : GetKey) : Bool := (s.look now g.key).isSome

theorem splitL1_std (now : Nat) (s : Store) : ∀ ks : List GetKey,
    L1L2.splitL1 (ks.map (stdGetResp now s false)) =
      ((ks.filter (l1Live now s)).map (stdGetResp now s false), ks.filter (fun g => !l1Live now s g)) := by
  intro ks
  induction ks with
  | nil => rfl
  | cons g rest ih =>
    simp only [List.map_cons, L1L2.splitL1, ih, List.filter_cons]
    cases h : s.look now g.key <;> simp [stdGetResp, l1Live, h]

theorem eval_getVia (now : Nat) (w : World) (tk : List Bytes) (g : GetCmd)
    (rest : List GetKey → Option HErr → OProg (HRes Unit)) :
    (getVia (Std.handler .l1) g rest).eval now w tk =
      let hits := ((g.keys.filter (l1Live now w.l1)).map (stdGetResp now w.l1 false)).map (fun r => OEv.resp (.get r))
      let misses := g.keys.filter (fun k => !l1Live now w.l1 k)
      if misses.isEmpty then (.ok (), hits ++ [.resp (.getEnd g.noopOpaque g.noopEnd)], w, tk)
      else (((rest misses none).eval now w tk).1, hits ++ ((rest misses none).eval now w tk).2.1,
        ((rest misses none).eval now w tk).2.2) := by
  unfold getVia
  show (Std.getLoop .l1 .get g.keys >>= _).eval now w tk = _
  rw [Prog.eval_bind, eval_std_getLoop_get]
  simp only [World.get_l1, splitL1_std, List.nil_append]
  rw [Prog.eval_bind, eval_emitGets_map]
  split <;> simp only [eval_reply]

/-- The second case (the error is L2's answer to the touch) does not arise under `CacheInv`. -/
theorem L1L2.eval_gat (now : Nat) (w : World) (tk : List Bytes) (c : KeyCmd) :
    (L1L2.gat (Std.handler .l1) (Std.handler .l2) c).eval now w tk =
      match w.l1.look now c.key, w.l2.look now c.key with
      | some a, some _ => (.ok (), [.resp (.gat (stdGatResp c (some a)))],
          { l1 := (mcTouch now w.l1 c.key c.exptime).1, l2 := (mcTouch now w.l2 c.key c.exptime).1 }, tk)
      | some _, none => (.error (.app .keyNotFound), [], { l1 := (mcTouch now w.l1 c.key c.exptime).1, l2 := w.l2 }, tk)
      | none, none => (.ok (), [.resp (.gat (stdGatResp c none))], w, tk)
      | none, some b => (.ok (), [.resp (.gat (stdGatResp c (some b)))],
          { l1 := (mcStore now w.l1 .add { key := c.key, exptime := c.exptime, flags := b.flags, data := b.data }).1,
            l2 := (mcTouch now w.l2 c.key c.exptime).1 }, tk) := by
  cases h1 : w.l1.look now c.key <;> cases h2 : w.l2.look now c.key <;>
    simp only [L1L2.gat, eval_andThen_gat, eval_andThen_touch, eval_andThen_store, eval_reply, Prog.eval_pure, stdGatResp,
      mcTouch, mcStore, isErr, h1, h2, World.get_l1, World.get_l2, World.l2_put_l1, World.l1_put_l2, World.put_l1_self,
      World.put_l2_self, World.put_put_l1_l2, World.put_put_l2_l1, Bool.false_eq_true, if_true, if_false]

/-- L2's answer is passed on whether the touch that follows a hit finds the key in L1 or not. -/
theorem L1L2Batch.eval_gat (now : Nat) (w : World) (tk : List Bytes) (c : KeyCmd) :
    (L1L2Batch.gat (Std.handler .l1) (Std.handler .l2) c).eval now w tk =
      match w.l2.look now c.key with
      | none => (.ok (), [.resp (.gat (stdGatResp c none))], w, tk)
      | some b => (.ok (), [.resp (.gat (stdGatResp c (some b)))],
          { l1 := (mcTouch now w.l1 c.key c.exptime).1, l2 := (mcTouch now w.l2 c.key c.exptime).1 }, tk) := by
  unfold L1L2Batch.gat
  rw [eval_andThen_gat]
  cases h2 : w.l2.look now c.key with
  | none => simp only [World.get_l2, h2, stdGatResp, if_true, mcTouch, World.put_l2_self, eval_reply]
  | some b =>
    simp only [World.get_l2, h2, stdGatResp, Bool.false_eq_true, if_false]
    rw [eval_andThen_touch]
    refine eval_ackOr_of (tol := (isErr · .keyNotFound)) ?_ none _ now _ tk
    split
    · exact .inl rfl
    · exact .inr rfl

end Rend
