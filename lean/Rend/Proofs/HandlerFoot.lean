/-
  The footprint of a handler as one statement, for the footprints of the orchestrators to rest on.
-/
import Rend.Types
import Rend.Proofs.ProgLemmas

namespace Rend

/-- Every request a method of `h` issues on behalf of client key `k` satisfies `F k`, whatever the
    backend answers; a get answers only keys it was asked for. -/
structure Handler.Foot {ε : Type} (h : Handler ε) (F : Bytes → Tier → Req → Prop) : Prop where
  store : ∀ kind c, AllReqs (F c.key) (h.store kind c)
  gat : ∀ c, AllReqs (F c.key) (h.gat c)
  delete : ∀ c, AllReqs (F c.key) (h.delete c)
  touch : ∀ c, AllReqs (F c.key) (h.touch c)
  get : ∀ ks, ReqsPost (fun t r => ∃ g ∈ ks, F g.key t r) (fun x => ∀ r ∈ x.1, ∃ g ∈ ks, r.key = g.key) (h.get ks)
  getE : ∀ ks, ReqsPost (fun t r => ∃ g ∈ ks, F g.key t r) (fun x => ∀ r ∈ x.1, ∃ g ∈ ks, r.key = g.key) (h.getE ks)

namespace Handler.Foot
variable {ε : Type} {h : Handler ε} {F F' : Bytes → Tier → Req → Prop}

theorem mono (f : h.Foot F) (hF : ∀ k t r, F k t r → F' k t r) : h.Foot F' where
  store kind c := (f.store kind c).mono (hF _)
  gat c := (f.gat c).mono (hF _)
  delete c := (f.delete c).mono (hF _)
  touch c := (f.touch c).mono (hF _)
  get ks := (f.get ks).mono (fun _ _ ⟨g, hg, hr⟩ => ⟨g, hg, hF _ _ _ hr⟩) fun _ h => h
  getE ks := (f.getE ks).mono (fun _ _ ⟨g, hg, hr⟩ => ⟨g, hg, hF _ _ _ hr⟩) fun _ h => h

theorem store_key (f : h.Foot F) (kind : SetKind) (c : SetCmd) {k : Bytes} (hc : c.key = k) :
    AllReqs (F k) (h.store kind c) := hc ▸ f.store kind c

theorem gat_key (f : h.Foot F) (c : KeyCmd) {k : Bytes} (hc : c.key = k) : AllReqs (F k) (h.gat c) := hc ▸ f.gat c

theorem delete_key (f : h.Foot F) (c : KeyCmd) {k : Bytes} (hc : c.key = k) : AllReqs (F k) (h.delete c) :=
  hc ▸ f.delete c

theorem touch_key (f : h.Foot F) (c : KeyCmd) {k : Bytes} (hc : c.key = k) : AllReqs (F k) (h.touch c) :=
  hc ▸ f.touch c

theorem get_key (f : h.Foot F) {ks : List GetKey} {k : Bytes} (hk : ∀ g ∈ ks, g.key = k) :
    ReqsPost (F k) (fun x => ∀ r ∈ x.1, r.key = k) (h.get ks) :=
  (f.get ks).mono (fun _ _ ⟨g, hg, hr⟩ => hk g hg ▸ hr) fun _ hx r hr =>
    have ⟨g, hg, e⟩ := hx r hr
    e.trans (hk g hg)

theorem getE_key (f : h.Foot F) {ks : List GetKey} {k : Bytes} (hk : ∀ g ∈ ks, g.key = k) :
    ReqsPost (F k) (fun x => ∀ r ∈ x.1, r.key = k) (h.getE ks) :=
  (f.getE ks).mono (fun _ _ ⟨g, hg, hr⟩ => hk g hg ▸ hr) fun _ hx r hr =>
    have ⟨g, hg, e⟩ := hx r hr
    e.trans (hk g hg)

end Handler.Foot

end Rend
