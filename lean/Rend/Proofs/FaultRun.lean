/-
  Laws of the fault-aware runner `Prog.runSt`, and what one request does under a fault plan
  (`RunSt.exec_clean`, `exec_struck`).
-/
import Rend.Proofs.TwoTier

namespace Rend
namespace Prog
variable {ε α β : Type} (now : Nat) (fault : Option Fault)

@[simp] theorem runSt_pure (a : α) (s : RunSt) : (pure a : Prog ε α).runSt now fault s = (a, [], s) := rfl

theorem runSt_bind (p : Prog ε α) (f : α → Prog ε β) (s : RunSt) :
    (p >>= f).runSt now fault s =
      (((f (p.runSt now fault s).1).runSt now fault (p.runSt now fault s).2.2).1,
       (p.runSt now fault s).2.1 ++ ((f (p.runSt now fault s).1).runSt now fault (p.runSt now fault s).2.2).2.1,
       ((f (p.runSt now fault s).1).runSt now fault (p.runSt now fault s).2.2).2.2) := by
  induction p generalizing s with
  | ret a => simp [Bind.bind, Prog.bind, runSt]
  | call t r k ih => simp only [Bind.bind, Prog.bind, runSt] at *; exact ih _ _
  | draw k ih =>
    simp only [Bind.bind, Prog.bind, runSt] at *
    cases s.toks with
    | nil => exact ih _ _
    | cons x xs => exact ih _ _
  | emit e p ih =>
    simp only [Bind.bind, Prog.bind, runSt] at *
    rw [ih]
    simp

@[simp] theorem runSt_req (t : Tier) (r : Req) (s : RunSt) :
    (Prog.req t r : Prog ε Resp).runSt now fault s = ((s.exec now fault t r).2, [], (s.exec now fault t r).1) := rfl

@[simp] theorem runSt_out (e : ε) (s : RunSt) : (Prog.out e : Prog ε Unit).runSt now fault s = ((), [e], s) := rfl

end Prog

theorem runSt_andThen {α β} (now : Nat) (fault : Option Fault) (p : OProg (HRes α)) (f : HRes α → OProg (HRes β)) (s : RunSt)
    (hsil : (p.runSt now fault s).2.1 = []) :
    (andThen p f).runSt now fault s =
      match (p.runSt now fault s).1 with
      | .error .panic => (.error .panic, [], (p.runSt now fault s).2.2)
      | .error .crash => (.error .crash, [], (p.runSt now fault s).2.2)
      | r => (f r).runSt now fault (p.runSt now fault s).2.2 := by
  unfold andThen
  rw [Prog.runSt_bind, hsil]
  generalize (p.runSt now fault s).1 = r
  cases r with
  | ok a => rfl
  | error e => cases e <;> rfl

@[simp] theorem runSt_reply (now : Nat) (fault : Option Fault) (e : REv) (s : RunSt) :
    (reply e).runSt now fault s = (.ok (), [.resp e], s) := by
  simp [reply, respond, Prog.runSt_bind]

theorem runSt_stdCall (now : Nat) (fault : Option Fault) (t : Tier) (r : Req) (dec : Resp → HRes Unit) (s : RunSt) :
    (Std.call (ε := OEv) t r dec).runSt now fault s = (dec (s.exec now fault t r).2, [], (s.exec now fault t r).1) := by
  simp [Std.call, Prog.runSt_bind]

theorem runSt_compensate (now : Nat) (fault : Option Fault) (t : Tier) (r : Req) (dec : Resp → HRes Unit) (ev : REv)
    (s : RunSt) :
    ((andThen (Std.call t r dec) fun _ => reply ev).runSt now fault s).2.2 = (s.exec now fault t r).1 := by
  simp only [runSt_andThen, runSt_stdCall]
  split <;> simp

theorem runSt_twoTier_acked (now : Nat) (fault : Option Fault) (t2 t1 : Tier) (r2 r1 : Req) (d2 d1 : Resp → HRes Unit)
    (tol : HRes Unit → Bool) (comp : Option (OProg (HRes Unit))) (ev : REv) (s : RunSt) :
    let x2 := s.exec now fault t2 r2
    let x1 := x2.1.exec now fault t1 r1
    let run := (twoTier (Std.call t2 r2 d2) (Std.call t1 r1 d1) tol comp ev).runSt now fault s
    run.1 = .ok () →
      d2 x2.2 = .ok () ∧
      (((tol (d1 x1.2) = true ∨ d1 x1.2 = .ok ()) ∧ run.2.2 = x1.1) ∨
       (∃ e d, d1 x1.2 = .error e ∧ e ≠ .panic ∧ tol (.error e) = false ∧ comp = some d ∧
          run.2.2 = ((andThen d fun _ => reply ev).runSt now fault x1.1).2.2)) := by
  simp only [twoTier, runSt_andThen, runSt_stdCall]
  cases d2 (s.exec now fault t2 r2).2 with
  | error e => cases e <;> simp
  | ok u =>
    simp only [runSt_andThen, runSt_stdCall, true_and]
    cases d1 ((s.exec now fault t2 r2).1.exec now fault t1 r1).2 with
    | ok u => simp [ackOr]
    | error e =>
      -- `cases e`: a panic or a crash of the L1 call ends the method before `ackOr`
      cases ht : tol (.error e) with
      | true => cases e <;> simp [ackOr, ht]        -- tolerated: acknowledged, the runner left as it is
      | false =>
        cases comp with
        | none => cases e <;> simp [ackOr, ht]      -- returned: not acknowledged
        | some d => cases e <;> simp [ackOr, ht]    -- made up for by `d`: the second disjunct

def RunSt.adv (s : RunSt) (t : Tier) (w' : World) (tr : List TraceEntry) : RunSt :=
  { s.bump t with w := w', trace := tr }

@[simp] theorem RunSt.adv_dead (s : RunSt) (t t' : Tier) (w' : World) (tr : List TraceEntry) :
    (s.adv t w' tr).dead t' = s.dead t' := by
  cases t <;> cases t' <;> rfl

@[simp] theorem RunSt.adv_count (s : RunSt) (t t' : Tier) (w' : World) (tr : List TraceEntry) :
    (s.adv t w' tr).count t' = if t' = t then s.count t' + 1 else s.count t' := by
  cases t <;> cases t' <;> rfl

theorem RunSt.exec_clean (now : Nat) (f : Fault) (s : RunSt) (t : Tier) (r : Req) (hd : s.dead t = false)
    (h : ¬ (f.tier = t ∧ f.idx = s.count t)) :
    s.exec now (some f) t r =
      (s.adv t (s.w.put t (Mc.exec now (s.w.get t) r).1) ((s.bump t).trace ++ [⟨t, r, (Mc.exec now (s.w.get t) r).2⟩]),
       (Mc.exec now (s.w.get t) r).2) := by
  simp only [RunSt.exec, hd, h, if_false, Bool.false_eq_true]
  rfl

theorem RunSt.exec_struck (now : Nat) (f : Fault) (s : RunSt) (t : Tier) (r : Req) (hd : s.dead t = false)
    (h : f.tier = t ∧ f.idx = s.count t) :
    s.exec now (some f) t r =
      match f.kind with
      | .status c => (s.adv t s.w ((s.bump t).trace ++ [⟨t, r, .status c⟩]), .status c)
      | .cutBefore => ((s.bump t).kill t, .io)
      | .cutAfter => ((s.adv t (s.w.put t (Mc.exec now (s.w.get t) r).1)
          ((s.bump t).trace ++ [⟨t, r, (Mc.exec now (s.w.get t) r).2⟩])).kill t, .io) := by
  simp only [RunSt.exec, hd, h, and_self, if_true, Bool.false_eq_true, if_false]
  cases f.kind <;> cases t <;> rfl

end Rend
