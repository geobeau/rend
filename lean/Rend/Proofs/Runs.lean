/-
  `Runs p a es`: program `p` can finish with result `a` having emitted the events `es`, for SOME
  behaviour of the backends and SOME drawn tokens.  A statement "for all `a es`, Runs p a es → …"
  therefore holds for every backend behaviour: correct answers, error statuses, lost connections.
  Such a statement is `p.Always Q`.  Handlers are `Silent`; `Sends P` adds that every request
  satisfies `P`, so that one walk over a handler program gives its silence and its footprint.
  (Not for `Std.getLoop`, whose footprint also says which keys are answered: `getLoop_silent` here
  and `Std.getLoop_foot`, over `ReqsPost`, walk it once each.)
-/
import Rend.Proofs.Eval
import Rend.Proofs.TwoTier

namespace Rend

inductive Runs {ε α : Type} : Prog ε α → α → List ε → Prop where
  | ret (a : α) : Runs (.ret a) a []
  | call (t : Tier) (r : Req) (k : Resp → Prog ε α) (x : Resp) (a : α) (es : List ε) :
      Runs (k x) a es → Runs (.call t r k) a es
  | draw (k : Bytes → Prog ε α) (tok : Bytes) (a : α) (es : List ε) : Runs (k tok) a es → Runs (.draw k) a es
  | emit (e : ε) (p : Prog ε α) (a : α) (es : List ε) : Runs p a es → Runs (.emit e p) a (e :: es)

namespace Runs
variable {ε α β : Type}

theorem of_pure {a b : α} {es : List ε} (h : Runs (pure a : Prog ε α) b es) : b = a ∧ es = [] := by
  cases h; exact ⟨rfl, rfl⟩

theorem bind_inv {p : Prog ε α} {f : α → Prog ε β} {b : β} {es : List ε} (h : Runs (p >>= f) b es) :
    ∃ a e1 e2, Runs p a e1 ∧ Runs (f a) b e2 ∧ es = e1 ++ e2 := by
  induction p generalizing es with
  | ret a => exact ⟨a, [], es, Runs.ret a, h, rfl⟩
  | call t r k ih =>
    cases h with
    | call _ _ _ x _ _ h' =>
      obtain ⟨a, e1, e2, h1, h2, rfl⟩ := ih x h'
      exact ⟨a, e1, e2, Runs.call t r k x a e1 h1, h2, rfl⟩
  | draw k ih =>
    cases h with
    | draw _ tok _ _ h' =>
      obtain ⟨a, e1, e2, h1, h2, rfl⟩ := ih tok h'
      exact ⟨a, e1, e2, Runs.draw k tok a e1 h1, h2, rfl⟩
  | emit e p ih =>
    cases h with
    | emit _ _ _ es' h' =>
      obtain ⟨a, e1, e2, h1, h2, rfl⟩ := ih h'
      exact ⟨a, e :: e1, e2, Runs.emit e p a e1 h1, h2, rfl⟩

theorem out_inv {e : ε} {u : Unit} {es : List ε} (h : Runs (Prog.out e) u es) : es = [e] := by
  cases h with
  | emit _ _ _ es' h' => cases h'; rfl

theorem req_inv {t : Tier} {r : Req} {x : Resp} {es : List ε} (h : Runs (Prog.req t r : Prog ε Resp) x es) : es = [] := by
  cases h with
  | call _ _ _ _ _ _ h' => cases h'; rfl

theorem token_inv {x : Bytes} {es : List ε} (h : Runs (Prog.token : Prog ε Bytes) x es) : es = [] := by
  cases h with
  | draw _ _ _ _ h' => cases h'; rfl

theorem filterEmit_inv {keep : ε → Bool} {p : Prog ε α} {a : α} {es : List ε} (h : Runs (Prog.filterEmit keep p) a es) :
    ∃ es', Runs p a es' ∧ es = es'.filter keep := by
  induction p generalizing es with
  | ret x =>
    cases h
    exact ⟨[], Runs.ret _, rfl⟩
  | call t r k ih =>
    cases h with
    | call _ _ _ x _ _ h' =>
      obtain ⟨es', h1, rfl⟩ := ih x h'
      exact ⟨es', Runs.call t r k x a es' h1, rfl⟩
  | draw k ih =>
    cases h with
    | draw _ tok _ _ h' =>
      obtain ⟨es', h1, rfl⟩ := ih tok h'
      exact ⟨es', Runs.draw k tok a es' h1, rfl⟩
  | emit e p ih =>
    simp only [Prog.filterEmit] at h
    split at h
    · rename_i hk
      cases h with
      | emit _ _ _ es0 h' =>
        obtain ⟨es', h1, rfl⟩ := ih h'
        exact ⟨e :: es', Runs.emit e p a es' h1, by simp [hk]⟩
    · rename_i hk
      obtain ⟨es', h1, rfl⟩ := ih h
      exact ⟨e :: es', Runs.emit e p a es' h1, by simp [hk]⟩

end Runs

/-- `Silent`, `OnlyResp`, `C08.Shape`, `C12.NoLocks` are structures whose one field, `out`, is a
    statement of this form: `.out` and `⟨·⟩` pass between them and the rules below. -/
def Prog.Always {ε α : Type} (p : Prog ε α) (Q : α → List ε → Prop) : Prop := ∀ a es, Runs p a es → Q a es

namespace Prog.Always
variable {ε α β : Type}

theorem mono {p : Prog ε α} {Q Q' : α → List ε → Prop} (h : p.Always Q) (hq : ∀ a es, Q a es → Q' a es) :
    p.Always Q' :=
  fun a es hr => hq a es (h a es hr)

theorem pure {Q : α → List ε → Prop} {a : α} (h : Q a []) : (Pure.pure a : Prog ε α).Always Q := by
  intro b es hr
  obtain ⟨rfl, rfl⟩ := Runs.of_pure hr
  exact h

theorem out {Q : Unit → List ε → Prop} {e : ε} (h : Q () [e]) : (Prog.out e).Always Q := by
  intro u es hr
  rw [Runs.out_inv hr]
  exact h

theorem bind {p : Prog ε α} {f : α → Prog ε β} {R : α → List ε → Prop} {Q : β → List ε → Prop} (hp : p.Always R)
    (hf : ∀ a e1, R a e1 → (f a).Always fun b e2 => Q b (e1 ++ e2)) : (p >>= f).Always Q := by
  intro b es h
  obtain ⟨a, e1, e2, h1, h2, rfl⟩ := Runs.bind_inv h
  exact hf a e1 (hp a e1 h1) b e2 h2

theorem outThen {e : ε} {p : Prog ε β} {Q : β → List ε → Prop} (hp : p.Always fun b es => Q b (e :: es)) :
    (Prog.out e >>= fun _ => p).Always Q :=
  bind (out (Q := fun _ es => es = [e]) rfl) fun _ _ h => by
    subst h
    exact hp

end Prog.Always

structure Silent {ε α : Type} (p : Prog ε α) : Prop where
  out : ∀ a es, Runs p a es → es = []

theorem Prog.Always.bindSilent {ε α β : Type} {p : Prog ε α} {f : α → Prog ε β} {Q : β → List ε → Prop}
    (hp : Silent p) (hf : ∀ a, (f a).Always Q) : (p >>= f).Always Q :=
  bind (R := fun _ es => es = []) hp.out fun a _ h => by
    subst h
    exact hf a

namespace Silent
variable {ε α β : Type}

theorem pure (a : α) : Silent (Pure.pure a : Prog ε α) := ⟨fun _ _ h => (Runs.of_pure h).2⟩

theorem ret (a : α) : Silent (Prog.ret a : Prog ε α) := ⟨fun _ _ h => by cases h; rfl⟩

theorem req (t : Tier) (r : Req) : Silent (Prog.req t r : Prog ε Resp) := ⟨fun _ _ h => Runs.req_inv h⟩

theorem token : Silent (Prog.token : Prog ε Bytes) := ⟨fun _ _ h => Runs.token_inv h⟩

theorem bind {p : Prog ε α} {f : α → Prog ε β} (hp : Silent p) (hf : ∀ a, Silent (f a)) : Silent (p >>= f) :=
  ⟨Prog.Always.bindSilent hp fun a => (hf a).out⟩

end Silent

structure SilentHandler {ε : Type} (h : Handler ε) : Prop where
  store : ∀ k c, Silent (h.store k c)
  get : ∀ ks, Silent (h.get ks)
  getE : ∀ ks, Silent (h.getE ks)
  gat : ∀ c, Silent (h.gat c)
  delete : ∀ c, Silent (h.delete c)
  touch : ∀ c, Silent (h.touch c)

structure Sends {ε α : Type} (P : Tier → Req → Prop) (p : Prog ε α) : Prop where
  reqs : AllReqs P p
  silent : Silent p

namespace Sends
variable {ε α β : Type} {P : Tier → Req → Prop}

theorem pure (a : α) : Sends P (Pure.pure a : Prog ε α) := ⟨.pure a, .pure a⟩

theorem req (t : Tier) (r : Req) (h : P t r) : Sends P (Prog.req t r : Prog ε Resp) := ⟨.req t r h, .req t r⟩

theorem bind {p : Prog ε α} {f : α → Prog ε β} (hp : Sends P p) (hf : ∀ a, Sends P (f a)) : Sends P (p >>= f) :=
  ⟨hp.reqs.bind fun a => (hf a).reqs, hp.silent.bind fun a => (hf a).silent⟩

theorem stdCall {t : Tier} {r : Req} (dec : Resp → HRes Unit) (h : P t r) : Sends P (Std.call (ε := ε) t r dec) :=
  (req t r h).bind fun _ => pure _

end Sends

namespace Std
variable {ε : Type} {P : Tier → Req → Prop}

theorem store_sends (t : Tier) (k : SetKind) (c : SetCmd) (h : P t (Std.storeReq k c)) :
    Sends P (Std.store (ε := ε) t k c) :=
  Std.store_eq_call t k c ▸ .stdCall _ h

theorem simple_sends (t : Tier) (r : Req) (h : P t r) : Sends P (Std.simple (ε := ε) t r) :=
  Std.simple_eq_call t r ▸ .stdCall _ h

theorem gat_sends (t : Tier) (c : KeyCmd) (h : P t { op := .gat, key := c.key, exptime := c.exptime }) :
    Sends P (Std.gat (ε := ε) t c) :=
  (Sends.req _ _ h).bind fun r => by
    split <;> exact .pure _

theorem getLoop_silent (t : Tier) (op : Op) : ∀ ks, Silent (Std.getLoop (ε := ε) t op ks)
  | [] => Silent.pure _
  | g :: rest => by
    have ih := getLoop_silent t op rest
    refine (Silent.req _ _).bind fun r => ?_
    split
    · exact ih.bind fun _ => Silent.pure _
    · exact ih.bind fun _ => Silent.pure _
    · exact Silent.pure _

end Std

theorem Std.silent {ε} (t : Tier) : SilentHandler (Std.handler (ε := ε) t) where
  store k c := (Std.store_sends (P := fun _ _ => True) t k c trivial).silent
  get := Std.getLoop_silent t .get
  getE := Std.getLoop_silent t .gete
  gat c := (Std.gat_sends (P := fun _ _ => True) t c trivial).silent
  delete _ := (Std.simple_sends (P := fun _ _ => True) t _ trivial).silent
  touch _ := (Std.simple_sends (P := fun _ _ => True) t _ trivial).silent

/-- Whatever the runner computes, under any fault plan, is a run: every `Always` theorem applies to
    what the driver executes. -/
theorem Prog.runSt_runs {ε α : Type} (now : Nat) (fault : Option Fault) (p : Prog ε α) :
    ∀ s : RunSt, Runs p (p.runSt now fault s).1 (p.runSt now fault s).2.1 := by
  induction p with
  | ret a => intro s; exact Runs.ret a
  | call t r k ih =>
    intro s
    simp only [Prog.runSt]
    exact Runs.call t r k _ _ _ (ih _ _)
  | draw k ih =>
    intro s
    simp only [Prog.runSt]
    cases h : s.toks with
    | nil => exact Runs.draw k _ _ _ (ih _ _)
    | cons x xs => exact Runs.draw k _ _ _ (ih _ _)
  | emit e p ih =>
    intro s
    simp only [Prog.runSt]
    exact Runs.emit e p _ _ (ih s)

theorem Prog.eval_runs {ε α : Type} (now : Nat) (p : Prog ε α) (w : World) (tk : List Bytes) :
    Runs p (p.eval now w tk).1 (p.eval now w tk).2.1 := by
  obtain ⟨h1, h2, _⟩ := Prog.runSt_none_eval now p { w := w, toks := tk } rfl rfl
  exact h1 ▸ h2 ▸ Prog.runSt_runs now none p _

end Rend
