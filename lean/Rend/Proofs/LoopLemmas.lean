/-
  The connection loop, one round at a time.
-/
import Rend.Server.Loop

namespace Rend.Server
open Rend

/-- No hypothesis on what was rendered or on the command being `quit`: the branches of the loop for a
    responder panic and for `quit` close the connection too. -/
theorem loop_error_closes (cf : Conf) (now : Nat) (fault : Option Fault) (fuel : Nat) (inp : Bytes) (st : RunSt)
    (out : Out) (hparse : (parse cf.proto inp).err = none) (e : HErr)
    (he : ((cf.orca ((parse cf.proto inp).cmd.getD .unknown)).runSt now fault st).1 = .error e)
    (hc : e ≠ .crash) (ha : ∀ a, e = .app a → isAppError a = false) :
    (loop cf now fault (fuel + 1) inp st out).1.ending = .closed := by
  obtain ⟨evs, st', hrun⟩ : ∃ evs st',
      (cf.orca ((parse cf.proto inp).cmd.getD .unknown)).runSt now fault st = (.error e, evs, st') :=
    ⟨_, _, Prod.ext he rfl⟩
  have hcr : isCrash (.error e : HRes Unit) = false := by
    cases e with
    | crash => exact absurd rfl hc
    | _ => rfl
  simp only [loop, hparse, hrun, hcr, Bool.false_eq_true, if_false]
  split
  · -- the responder panicked
    rfl
  · split
    · -- quit
      rfl
    · cases e with
      | crash => exact absurd rfl hc
      | app a => simp only [ha a rfl, Bool.false_eq_true, if_false]
      | panic => rfl
      | io => rfl

end Rend.Server
