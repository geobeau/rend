/-
  Fault-free evaluation of programs against the two reference stores, and its basic laws.
  `Prog.runSt` (what the driver executes) coincides with it when no fault is planned.
-/
import Rend.Proofs.StoreLemmas

namespace Rend

def Prog.eval {ε α : Type} (now : Nat) : Prog ε α → World → List Bytes → α × List ε × World × List Bytes
  | .ret a, w, tk => (a, [], w, tk)
  | .call t r k, w, tk =>
    eval now (k (Mc.exec now (w.get t) r).2) (w.put t (Mc.exec now (w.get t) r).1) tk
  | .draw k, w, tk =>
    match tk with
    | x :: xs => eval now (k x) w xs
    | [] => eval now (k (Bytes.zeros 16)) w []
  | .emit e p, w, tk =>
    ((eval now p w tk).1, e :: (eval now p w tk).2.1, (eval now p w tk).2.2.1, (eval now p w tk).2.2.2)

namespace Prog
variable {ε α β : Type} (now : Nat)

@[simp] theorem eval_pure (a : α) (w : World) (tk : List Bytes) :
    (pure a : Prog ε α).eval now w tk = (a, [], w, tk) := rfl

theorem eval_bind (p : Prog ε α) (f : α → Prog ε β) (w : World) (tk : List Bytes) :
    (p >>= f).eval now w tk =
      (((f (p.eval now w tk).1).eval now (p.eval now w tk).2.2.1 (p.eval now w tk).2.2.2).1,
       (p.eval now w tk).2.1 ++ ((f (p.eval now w tk).1).eval now (p.eval now w tk).2.2.1 (p.eval now w tk).2.2.2).2.1,
       ((f (p.eval now w tk).1).eval now (p.eval now w tk).2.2.1 (p.eval now w tk).2.2.2).2.2.1,
       ((f (p.eval now w tk).1).eval now (p.eval now w tk).2.2.1 (p.eval now w tk).2.2.2).2.2.2) := by
  induction p generalizing w tk with
  | ret a => simp [Bind.bind, Prog.bind, eval]
  | call t r k ih => simp only [Bind.bind, Prog.bind, eval] at *; exact ih _ _ _
  | draw k ih =>
    simp only [Bind.bind, Prog.bind] at *
    cases tk <;> exact ih _ _ _
  | emit e p ih =>
    simp only [Bind.bind, Prog.bind, eval] at *
    rw [ih]
    simp

@[simp] theorem eval_req (t : Tier) (r : Req) (w : World) (tk : List Bytes) :
    (Prog.req t r : Prog ε Resp).eval now w tk =
      ((Mc.exec now (w.get t) r).2, [], w.put t (Mc.exec now (w.get t) r).1, tk) := rfl

@[simp] theorem eval_out (e : ε) (w : World) (tk : List Bytes) :
    (Prog.out e : Prog ε Unit).eval now w tk = ((), [e], w, tk) := rfl

theorem eval_filterEmit (keep : ε → Bool) (p : Prog ε α) : ∀ (w : World) (tk : List Bytes),
    (Prog.filterEmit keep p).eval now w tk =
      ((p.eval now w tk).1, (p.eval now w tk).2.1.filter keep, (p.eval now w tk).2.2) := by
  induction p with
  | ret a => intro w tk; rfl
  | call t r k ih => intro w tk; exact ih _ _ _
  | draw k ih =>
    intro w tk
    cases tk <;> exact ih _ _ _
  | emit e p ih =>
    intro w tk
    simp only [Prog.filterEmit]
    by_cases hk : keep e = true
    · simp only [hk, if_true, Prog.eval, ih, List.filter_cons]
    · simp only [hk, Bool.false_eq_true, if_false, Prog.eval, ih, List.filter_cons]

theorem eval_token (w : World) (tk : List Bytes) :
    (Prog.token : Prog ε Bytes).eval now w tk = (tk.headD (Bytes.zeros 16), [], w, tk.tail) := by
  cases tk <;> rfl

end Prog

theorem Prog.runSt_none_eval {ε α : Type} (now : Nat) (p : Prog ε α) :
    ∀ s : RunSt, s.dead1 = false → s.dead2 = false →
      (p.runSt now none s).1 = (p.eval now s.w s.toks).1 ∧
      (p.runSt now none s).2.1 = (p.eval now s.w s.toks).2.1 ∧
      (p.runSt now none s).2.2.w = (p.eval now s.w s.toks).2.2.1 ∧
      (p.runSt now none s).2.2.toks = (p.eval now s.w s.toks).2.2.2 ∧
      (p.runSt now none s).2.2.dead1 = false ∧ (p.runSt now none s).2.2.dead2 = false := by
  induction p with
  | ret a => intro s h1 h2; exact ⟨rfl, rfl, rfl, rfl, h1, h2⟩
  | call t r k ih =>
    intro s h1 h2
    have hd : s.dead t = false := by cases t <;> assumption
    simp only [Prog.runSt, Prog.eval, RunSt.exec, hd, Bool.false_eq_true, if_false]
    cases t <;> exact ih _ _ h1 h2
  | draw k ih =>
    intro s h1 h2
    cases htk : s.toks with
    | nil =>
      have := ih (Bytes.zeros 16) s h1 h2
      simp only [Prog.runSt, Prog.eval, htk] at this ⊢
      exact this
    | cons x xs =>
      have := ih x { s with toks := xs } h1 h2
      simp only [Prog.runSt, Prog.eval, htk] at this ⊢
      exact this
  | emit e p ih =>
    intro s h1 h2
    obtain ⟨a1, a2, a3, a4, a5, a6⟩ := ih s h1 h2
    simp only [Prog.runSt, Prog.eval]
    exact ⟨a1, by rw [a2], a3, a4, a5, a6⟩

end Rend
