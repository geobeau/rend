/-
  What a program sends, whatever it is answered: `ReqsPost P Q` (every request satisfies `P`, every
  result `Q`) and `AllReqs P`, its case without a postcondition, whose rules are those of `ReqsPost`.
-/
import Rend.Base.Prog

namespace Rend

/-- `draw` quantifies over 16-byte tokens only.  16 is the model's token size (what `Prog.runSt`,
    `Prog.eval` and `Conc.StepWith.draw` draw when none is supplied), and the metadata record the
    chunking handler writes is well formed (`Meta.WF.tok`) only with such a token;
    `AllReqs.eval_preserves` asks the same of the tokens it is handed. -/
inductive AllReqs {ε α : Type} (P : Tier → Req → Prop) : Prog ε α → Prop where
  | ret (a : α) : AllReqs P (.ret a)
  | call (t : Tier) (r : Req) (k : Resp → Prog ε α) : P t r → (∀ x, AllReqs P (k x)) → AllReqs P (.call t r k)
  | draw (k : Bytes → Prog ε α) : (∀ tok, tok.length = 16 → AllReqs P (k tok)) → AllReqs P (.draw k)
  | emit (e : ε) (p : Prog ε α) : AllReqs P p → AllReqs P (.emit e p)

inductive ReqsPost {ε α : Type} (P : Tier → Req → Prop) (Q : α → Prop) : Prog ε α → Prop where
  | ret (a : α) : Q a → ReqsPost P Q (.ret a)
  | call (t : Tier) (r : Req) (k : Resp → Prog ε α) : P t r → (∀ x, ReqsPost P Q (k x)) → ReqsPost P Q (.call t r k)
  | draw (k : Bytes → Prog ε α) : (∀ tok, tok.length = 16 → ReqsPost P Q (k tok)) → ReqsPost P Q (.draw k)
  | emit (e : ε) (p : Prog ε α) : ReqsPost P Q p → ReqsPost P Q (.emit e p)

namespace ReqsPost
variable {ε α β : Type} {P : Tier → Req → Prop}

theorem toAll {Q : α → Prop} {p : Prog ε α} (h : ReqsPost P Q p) : AllReqs P p := by
  induction h with
  | ret a _ => exact AllReqs.ret a
  | call t r k hr _ ih => exact AllReqs.call t r k hr ih
  | draw k _ ih => exact AllReqs.draw k ih
  | emit e p _ ih => exact AllReqs.emit e p ih

theorem ofAll {p : Prog ε α} (h : AllReqs P p) : ReqsPost P (fun _ => True) p := by
  induction h with
  | ret a => exact ReqsPost.ret a trivial
  | call t r k hr _ ih => exact ReqsPost.call t r k hr ih
  | draw k _ ih => exact ReqsPost.draw k ih
  | emit e p _ ih => exact ReqsPost.emit e p ih

theorem bind {Q : α → Prop} {R : β → Prop} {p : Prog ε α} {f : α → Prog ε β} (hp : ReqsPost P Q p)
    (hf : ∀ a, Q a → ReqsPost P R (f a)) : ReqsPost P R (p >>= f) := by
  show ReqsPost P R (Prog.bind p f)
  induction hp with
  | ret a ha => exact hf a ha
  | call t r k hr _ ih => exact ReqsPost.call t r _ hr (fun x => ih x)
  | draw k _ ih => exact ReqsPost.draw _ (fun tok h => ih tok h)
  | emit e p _ ih => exact ReqsPost.emit e _ ih

theorem mono {P' : Tier → Req → Prop} {Q Q' : α → Prop} {p : Prog ε α} (h : ReqsPost P Q p)
    (hP : ∀ t r, P t r → P' t r) (hQ : ∀ a, Q a → Q' a) : ReqsPost P' Q' p := by
  induction h with
  | ret a ha => exact ReqsPost.ret a (hQ a ha)
  | call t r k hr _ ih => exact ReqsPost.call t r k (hP t r hr) ih
  | draw k _ ih => exact ReqsPost.draw k ih
  | emit e p _ ih => exact ReqsPost.emit e p ih

theorem pure {Q : α → Prop} (a : α) (h : Q a) : ReqsPost P Q (Pure.pure a : Prog ε α) := ReqsPost.ret a h

theorem req (t : Tier) (r : Req) (h : P t r) : ReqsPost P (fun _ => True) (Prog.req t r : Prog ε Resp) :=
  ReqsPost.call t r _ h (fun x => ReqsPost.ret x trivial)

theorem bindAll {Q : α → Prop} {p : Prog ε α} {f : α → Prog ε β} (hp : ReqsPost P Q p)
    (hf : ∀ a, Q a → AllReqs P (f a)) : AllReqs P (p >>= f) :=
  (hp.bind fun a ha => ofAll (hf a ha)).toAll

end ReqsPost

namespace AllReqs

variable {ε α β : Type} {P : Tier → Req → Prop}

theorem bind {p : Prog ε α} {f : α → Prog ε β} (hp : AllReqs P p) (hf : ∀ a, AllReqs P (f a)) :
    AllReqs P (p >>= f) :=
  (ReqsPost.ofAll hp).bindAll fun a _ => hf a

theorem mono {Q : Tier → Req → Prop} {p : Prog ε α} (h : AllReqs P p) (hPQ : ∀ t r, P t r → Q t r) : AllReqs Q p :=
  ((ReqsPost.ofAll h).mono hPQ fun _ h => h).toAll

theorem pure (a : α) : AllReqs P (Pure.pure a : Prog ε α) := AllReqs.ret a

theorem req (t : Tier) (r : Req) (h : P t r) : AllReqs P (Prog.req t r : Prog ε Resp) :=
  AllReqs.call t r _ h (fun x => AllReqs.ret x)

theorem token : AllReqs P (Prog.token : Prog ε Bytes) :=
  AllReqs.draw _ (fun tok _ => AllReqs.ret tok)

end AllReqs

end Rend
