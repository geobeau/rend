/-
  Lookups and updates of a store, of the two stores of a world, and the liveness of items.
-/
import Rend.Base.Prog

namespace Rend

theorem look_some {s : Store} {now : Nat} {k : Bytes} {it : Item} :
    s.look now k = some it ↔ s k = some it ∧ it.live now = true := by
  unfold Store.look
  cases h : s k with
  | none => simp
  | some x =>
    by_cases hl : x.live now = true
    · simp [hl]
      rintro rfl
      exact hl
    · have hl' : x.live now = false := by simpa using hl
      simp [hl']
      rintro rfl
      exact hl'

theorem look_none {s : Store} {now : Nat} {k : Bytes} :
    s.look now k = none ↔ ∀ it, s k = some it → it.live now = false := by
  simp only [Option.eq_none_iff_forall_ne_some, ne_eq, look_some, not_and, Bool.not_eq_true]

theorem live_mono {it : Item} {now now' : Nat} (h : now ≤ now') (hl : it.live now' = true) : it.live now = true := by
  simp only [Item.live, Bool.or_eq_true, beq_iff_eq, decide_eq_true_eq] at hl ⊢
  omega

theorem remaining_le (now : Nat) (it : Item) : remaining now it ≤ it.deadline := by
  unfold remaining
  split <;> omega

@[simp] theorem Store.set_same (s : Store) (k : Bytes) (v : Option Item) : (s.set k v) k = v := by
  simp [Store.set]

theorem Store.set_other (s : Store) (k k' : Bytes) (v : Option Item) (h : k' ≠ k) : (s.set k v) k' = s k' := by
  simp [Store.set, h]

theorem Store.look_set_same (s : Store) (now : Nat) (k : Bytes) (it : Item) :
    (s.set k (some it)).look now k = if it.live now then some it else none := by
  simp [Store.look, Store.set]

theorem Store.look_set_none (s : Store) (now : Nat) (k : Bytes) : (s.set k none).look now k = none := by
  simp [Store.look]

theorem Store.look_set_other (s : Store) (now : Nat) (k k' : Bytes) (v : Option Item) (h : k' ≠ k) :
    (s.set k v).look now k' = s.look now k' := by
  simp [Store.look, Store.set, h]

@[simp] theorem World.get_put_same (w : World) (t : Tier) (s : Store) : (w.put t s).get t = s := by
  cases t <;> rfl

@[simp] theorem World.get_put_l1_l2 (w : World) (s : Store) : (w.put Tier.l1 s).get Tier.l2 = w.get Tier.l2 := rfl
@[simp] theorem World.get_put_l2_l1 (w : World) (s : Store) : (w.put Tier.l2 s).get Tier.l1 = w.get Tier.l1 := rfl
@[simp] theorem World.l1_put_l1 (w : World) (s : Store) : (w.put Tier.l1 s).l1 = s := rfl
@[simp] theorem World.l2_put_l1 (w : World) (s : Store) : (w.put Tier.l1 s).l2 = w.l2 := rfl
@[simp] theorem World.l1_put_l2 (w : World) (s : Store) : (w.put Tier.l2 s).l1 = w.l1 := rfl
@[simp] theorem World.l2_put_l2 (w : World) (s : Store) : (w.put Tier.l2 s).l2 = s := rfl
@[simp] theorem World.get_l1 (w : World) : w.get Tier.l1 = w.l1 := rfl
@[simp] theorem World.get_l2 (w : World) : w.get Tier.l2 = w.l2 := rfl

@[simp] theorem World.put_get_self (w : World) (t : Tier) : w.put t (w.get t) = w := by
  cases t <;> cases w <;> rfl

theorem World.get_put (w : World) (t t' : Tier) (s : Store) : (w.put t s).get t' = if t' = t then s else w.get t' := by
  cases t <;> cases t' <;> rfl

@[simp] theorem World.put_put_l2_l1 (w : World) (a b : Store) : (w.put .l2 a).put .l1 b = { l1 := b, l2 := a } := rfl

@[simp] theorem World.put_put_l1_l2 (w : World) (a b : Store) : (w.put .l1 a).put .l2 b = { l1 := a, l2 := b } := rfl

@[simp] theorem World.put_l1_self (w : World) : w.put .l1 w.l1 = w := rfl

@[simp] theorem World.put_l2_self (w : World) : w.put .l2 w.l2 = w := rfl

theorem decode_notFound : decodeError stNotFound = some .keyNotFound := by decide

theorem World.put_put_same (w : World) (t : Tier) (a b : Store) : (w.put t a).put t b = w.put t b := by
  cases t <;> rfl

theorem Store.foldl_set_of_not_mem {α : Type} (key : α → Bytes) (val : α → Option Item) (k : Bytes) :
    ∀ (l : List α) (s : Store), (∀ a ∈ l, k ≠ key a) → (l.foldl (fun s a => s.set (key a) (val a)) s) k = s k
  | [], _, _ => rfl
  | a :: l, s, h => by
    rw [List.foldl_cons, foldl_set_of_not_mem key val k l _ fun b hb => h b (List.mem_cons_of_mem _ hb),
      Store.set_other _ _ _ _ (h a List.mem_cons_self)]

theorem Store.foldl_set_of_mem {α : Type} (key : α → Bytes) (val : α → Option Item) (hinj : ∀ a b, key a = key b → a = b)
    {a : α} : ∀ (l : List α) (s : Store), a ∈ l → (l.foldl (fun s a => s.set (key a) (val a)) s) (key a) = val a
  | b :: l, s, h => by
    rw [List.foldl_cons]
    by_cases hl : a ∈ l
    · exact foldl_set_of_mem key val hinj l _ hl
    · obtain rfl : a = b := (List.mem_cons.mp h).resolve_right hl
      rw [foldl_set_of_not_mem key val _ l _ fun b hb e => hl (hinj a b e ▸ hb), Store.set_same]

end Rend
