/-
  The binary request parser on what the encoder writes: a header is read back as written, the
  opcodes select their body parser, and each body parser returns the fields it was given.  The batch
  loop is followed on the byte stream (`readBatchS`), one header at a time.  On any header, what
  `dispatch` returns is one of a few forms (`DispatchCase`).
-/
import Rend.Proofs.WireLemmas

namespace Rend.Wire
open Rend

theorem binParse_header {op kl el tot opq : Nat} {body : Bytes} (hop : op < 256) (hkl : kl < 65536) (hel : el < 256)
    (htot : tot < 4294967296) (hopq : opq < 4294967296) :
    binParse (reqHeader op kl el tot opq ++ body) =
      dispatch { magic := Gen.binprot_MagicRequest, opcode := op, keyLen := kl, extLen := el, total := tot, opq := opq } body := by
  unfold binParse
  rw [readHeader_ok hop hkl hel htot hopq]

theorem binParse_bare (op o : Nat) (rest : Bytes) (hop : op < 256) (ho : o < 4294967296) :
    binParse (reqHeader op 0 0 0 o ++ rest) = dispatch ⟨Gen.binprot_MagicRequest, op, 0, 0, 0, o⟩ rest :=
  binParse_header hop (by decide) (by decide) (by decide) ho

theorem storeOp_lt (k : SetKind) (q : Bool) : storeOp k q < 256 := by
  cases k <;> cases q <;> decide

theorem dispatch_store (m kl el tot opq : Nat) (k : SetKind) (q : Bool) (rest : Bytes) :
    dispatch ⟨m, storeOp k q, kl, el, tot, opq⟩ rest =
      match k with
      | .append | .prepend => parsePend ⟨m, storeOp k q, kl, el, tot, opq⟩ k q rest
      | _ => parseSet ⟨m, storeOp k q, kl, el, tot, opq⟩ k q rest := by
  cases k <;> cases q <;> rfl

theorem dispatch_delete (m kl el tot opq : Nat) (rest : Bytes) :
    dispatch ⟨m, Gen.binprot_OpcodeDelete, kl, el, tot, opq⟩ rest =
      parseKeyOnly ⟨m, Gen.binprot_OpcodeDelete, kl, el, tot, opq⟩ .delete
        (fun key => .delete { key := key, opq := opq }) rest := rfl

theorem dispatch_touch (m kl el tot opq : Nat) (rest : Bytes) :
    dispatch ⟨m, Gen.binprot_OpcodeTouch, kl, el, tot, opq⟩ rest =
      parseExpKey ⟨m, Gen.binprot_OpcodeTouch, kl, el, tot, opq⟩ .touch
        (fun ex key => .touch { key := key, exptime := ex, opq := opq }) rest := rfl

theorem dispatch_gat (m kl el tot opq : Nat) (rest : Bytes) :
    dispatch ⟨m, Gen.binprot_OpcodeGat, kl, el, tot, opq⟩ rest =
      parseExpKey ⟨m, Gen.binprot_OpcodeGat, kl, el, tot, opq⟩ .gat
        (fun ex key => .gat { key := key, exptime := ex, opq := opq }) rest := rfl

theorem dispatch_get (m kl el tot opq : Nat) (rest : Bytes) :
    dispatch ⟨m, Gen.binprot_OpcodeGet, kl, el, tot, opq⟩ rest =
      parseKeyOnly ⟨m, Gen.binprot_OpcodeGet, kl, el, tot, opq⟩ .get
        (fun key => .get { keys := [{ key := key, opq := opq, quiet := false }] }) rest := rfl

theorem parseSet_ok {m op opq : Nat} {k : SetKind} {q : Bool} {fl ex : Nat} {key data rest : Bytes}
    (hlen : 8 + key.length + data.length < 4294967296) (hf : fl < 4294967296) (he : ex < 4294967296) :
    parseSet ⟨m, op, key.length, 8, 8 + key.length + data.length, opq⟩ k q
        (Bytes.be32 fl ++ (Bytes.be32 ex ++ (key ++ (data ++ rest)))) =
      { cmd := some (.store k { key := key, flags := fl, exptime := ex, data := data, opq := opq, quiet := q }),
        rt := k.reqType, rest := rest, alloc := 8 + key.length + data.length } := by
  have hc : ¬ 8 + key.length + data.length < 8 + key.length := by omega
  have hreal : (8589934592 + (8 + key.length + data.length) - 8 - key.length) % 4294967296 = data.length := by omega
  simp only [parseSet, if_neg hc, hreal, readN_be32, readN_append, Bytes.rd32_be32 _ hf, Bytes.rd32_be32 _ he]

theorem parsePend_ok {m op el opq : Nat} {k : SetKind} {q : Bool} {key data rest : Bytes}
    (hlen : key.length + data.length < 4294967296) :
    parsePend ⟨m, op, key.length, el, key.length + data.length, opq⟩ k q (key ++ (data ++ rest)) =
      { cmd := some (.store k { key := key, flags := 0, exptime := 0, data := data, opq := opq, quiet := q }),
        rt := k.reqType, rest := rest, alloc := key.length + data.length } := by
  have hc : ¬ key.length + data.length < key.length := by omega
  have hreal : (4294967296 + (key.length + data.length) - key.length) % 4294967296 = data.length := by omega
  simp only [parsePend, if_neg hc, hreal, readN_append]

theorem parseKeyOnly_ok {m op el tot opq : Nat} {rt : ReqType} {mk : Bytes → Cmd} {key rest : Bytes} :
    parseKeyOnly ⟨m, op, key.length, el, tot, opq⟩ rt mk (key ++ rest) =
      { cmd := some (mk key), rt := rt, rest := rest, alloc := key.length } := by
  simp only [parseKeyOnly, readN_append]

theorem parseExpKey_ok {m op el tot opq : Nat} {rt : ReqType} {mk : Nat → Bytes → Cmd} {ex : Nat} {key rest : Bytes}
    (he : ex < 4294967296) :
    parseExpKey ⟨m, op, key.length, el, tot, opq⟩ rt mk (Bytes.be32 ex ++ (key ++ rest)) =
      { cmd := some (mk ex key), rt := rt, rest := rest, alloc := 4 + key.length } := by
  simp only [parseExpKey, readN_be32, readN_append, Bytes.rd32_be32 _ he]

/-- How `dispatch` turns the result of a batch read into a parse result. -/
def batchRes (rt : ReqType) (mk : GetCmd → Cmd) (r : Option (GetCmd × Bytes × Nat) × Nat) : PRes :=
  match r with
  | (some (g, x, a), _) => { cmd := some (mk g), rt := rt, rest := x, alloc := a }
  | (none, a) => failWith rt .eof [] a

theorem dispatch_getQ (m kl el tot opq : Nat) (rest : Bytes) :
    dispatch ⟨m, Gen.binprot_OpcodeGetQ, kl, el, tot, opq⟩ rest =
      batchRes .get .get (readBatch Gen.binprot_OpcodeGetQ Gen.binprot_OpcodeGet (rest.length + 1)
        ⟨m, Gen.binprot_OpcodeGetQ, kl, el, tot, opq⟩ rest [] 0) := rfl

inductive DispatchCase (h : ReqHeader) (rest : Bytes) : PRes → Prop
  | set (k : SetKind) (q : Bool) : DispatchCase h rest (parseSet h k q rest)
  | pend (k : SetKind) (q : Bool) : DispatchCase h rest (parsePend h k q rest)
  | keyOnly (rt : ReqType) (mk : Bytes → Cmd) : DispatchCase h rest (parseKeyOnly h rt mk rest)
  | expKey (rt : ReqType) (mk : Nat → Bytes → Cmd) : DispatchCase h rest (parseExpKey h rt mk rest)
  | batch (qop op : Nat) (rt : ReqType) (mk : GetCmd → Cmd) :
      DispatchCase h rest (batchRes rt mk (readBatch qop op (rest.length + 1) h rest [] 0))
  | bare (c : Option Cmd) (rt : ReqType) (e : Option PErr) :
      DispatchCase h rest { cmd := c, rt := rt, err := e, rest := rest, alloc := 0 }

theorem dispatch_case (h : ReqHeader) (rest : Bytes) : DispatchCase h rest (dispatch h rest) := by
  unfold dispatch
  -- a chain of tests of the opcode: what each selects is one of the forms as it stands, and so is the default
  repeat (refine iteInduction (fun _ => by constructor) fun _ => ?_)
  exact .bare _ _ _

theorem encGetQs_length_ge (qop : Nat) (ks : List GetKey) : 24 * ks.length ≤ (encGetQs qop ks).length := by
  induction ks with
  | nil => exact Nat.le_refl _
  | cons k ks ih =>
    simp only [encGetQs, List.length_append, List.length_cons, reqHeader_length]
    omega

/-- `readBatch` started before the header is read: the shape of its own recursive call. -/
def readBatchS (qop op fuel : Nat) (inp : Bytes) (acc : List GetKey) (alloc : Nat) :
    Option (GetCmd × Bytes × Nat) × Nat :=
  match readRequestHeader inp with
  | .ok h inp' => readBatch qop op fuel h inp' acc alloc
  | _ => (none, alloc)

theorem readBatchS_reqHeader {qop op fuel o kl el tot opq : Nat} {body : Bytes} {acc : List GetKey} {alloc : Nat}
    (ho : o < 256) (hkl : kl < 65536) (hel : el < 256) (htot : tot < 4294967296) (hopq : opq < 4294967296) :
    readBatchS qop op fuel (reqHeader o kl el tot opq ++ body) acc alloc =
      readBatch qop op fuel ⟨Gen.binprot_MagicRequest, o, kl, el, tot, opq⟩ body acc alloc := by
  unfold readBatchS
  rw [readHeader_ok ho hkl hel htot hopq]

theorem readBatchS_quiet (qop op fuel : Nat) (hqop : qop < 256) (k : GetKey) (hk : k.key.length < 65536)
    (ho : k.opq < 4294967296) (hq : k.quiet = true) (tl : Bytes) (acc : List GetKey) (alloc : Nat) :
    readBatchS qop op (fuel + 1) (reqHeader qop k.key.length 0 k.key.length k.opq ++ (k.key ++ tl)) acc alloc =
      readBatchS qop op fuel tl (acc ++ [k]) (alloc + k.key.length) := by
  rw [readBatchS_reqHeader hqop hk (by decide) (Nat.lt_trans hk (by decide)) ho, readBatch, if_pos rfl]
  simp only [readN_append, ← hq]
  rfl

theorem readBatchS_get (qop op fuel : Nat) (hop : op < 256) (hne : qop ≠ op) (k : GetKey) (hk : k.key.length < 65536)
    (ho : k.opq < 4294967296) (hq : k.quiet = false) (rest : Bytes) (acc : List GetKey) (alloc : Nat) :
    readBatchS qop op (fuel + 1) (reqHeader op k.key.length 0 k.key.length k.opq ++ (k.key ++ rest)) acc alloc =
      (some ({ keys := acc ++ [k], noopOpaque := 0, noopEnd := false }, rest, alloc + k.key.length),
        alloc + k.key.length) := by
  rw [readBatchS_reqHeader hop hk (by decide) (Nat.lt_trans hk (by decide)) ho, readBatch,
    if_neg (Ne.symm hne), if_pos rfl]
  simp only [readN_append, ← hq]

theorem readBatchS_noop (qop op fuel : Nat) (hnq : qop ≠ Gen.binprot_OpcodeNoop) (hno : op ≠ Gen.binprot_OpcodeNoop)
    (opq : Nat) (ho : opq < 4294967296) (rest : Bytes) (acc : List GetKey) (alloc : Nat) :
    readBatchS qop op (fuel + 1) (reqHeader Gen.binprot_OpcodeNoop 0 0 0 opq ++ rest) acc alloc =
      (some ({ keys := acc, noopOpaque := opq, noopEnd := true }, rest, alloc), alloc) := by
  rw [readBatchS_reqHeader (by decide) (by decide) (by decide) (by decide) ho, readBatch,
    if_neg (Ne.symm hnq), if_neg (Ne.symm hno), if_pos rfl]

theorem readBatchS_quiets (qop op : Nat) (hqop : qop < 256) (tl : Bytes) :
    ∀ (ks : List GetKey), (∀ k ∈ ks, (k.key.length < 65536 ∧ k.opq < 4294967296) ∧ k.quiet = true) →
    ∀ (fuel : Nat) (acc : List GetKey) (alloc : Nat),
      ∃ a, readBatchS qop op (fuel + ks.length) (encGetQs qop ks ++ tl) acc alloc =
        readBatchS qop op fuel tl (acc ++ ks) a := by
  intro ks
  induction ks with
  | nil => intro _ fuel acc alloc; exact ⟨alloc, by simp [encGetQs]⟩
  | cons k ks ih =>
    intro hks fuel acc alloc
    obtain ⟨⟨hk, ho⟩, hq⟩ := hks k List.mem_cons_self
    obtain ⟨a, ha⟩ := ih (fun k' hk' => hks k' (List.mem_cons_of_mem _ hk')) fuel (acc ++ [k]) (alloc + k.key.length)
    refine ⟨a, ?_⟩
    rw [encGetQs, List.length_cons, ← Nat.add_assoc, List.append_assoc, List.append_assoc,
      readBatchS_quiet qop op _ hqop k hk ho hq, ha, List.append_assoc]
    rfl

end Rend.Wire
