/-
  `readN` and the 24-byte header of the binary protocol: what the decoders read back from a header
  that the encoders wrote, for requests and responses alike.
-/
import Rend.Wire.Encode
import Rend.Wire.BinParse
import Rend.Wire.Respond
import Rend.Proofs.BytesLemmas

namespace Rend.Wire
open Rend

theorem readN_append (xs ys : Bytes) : readN xs.length (xs ++ ys) = some (xs, ys) := by
  simp [readN]

theorem readN_append' (n : Nat) (xs ys : Bytes) (h : xs.length = n) : readN n (xs ++ ys) = some (xs, ys) := by
  subst h; exact readN_append xs ys

theorem readN_be32 (n : Nat) (rest : Bytes) : readN 4 (Bytes.be32 n ++ rest) = some (Bytes.be32 n, rest) :=
  readN_append (Bytes.be32 n) rest

theorem readN_short (n : Nat) (xs : Bytes) (h : xs.length < n) : readN n xs = none := by
  simp [readN, h]

theorem readN_append_of_le {n : Nat} (s t : Bytes) (h : s.length ≤ n) :
    readN n (s ++ t) = (readN (n - s.length) t).map fun p => (s ++ p.1, p.2) := by
  unfold readN
  rw [List.length_append]
  by_cases ht : t.length < n - s.length
  · rw [if_pos ht, if_pos (by omega)]
    rfl
  · rw [if_neg ht, if_neg (by omega), List.take_append, List.drop_append, List.take_of_length_le h, List.drop_of_length_le h]
    rfl

theorem readN_append_of_ge {n : Nat} (s t : Bytes) (h : n ≤ s.length) :
    readN n (s ++ t) = some (s.take n, s.drop n ++ t) := by
  rw [readN, if_neg (by rw [List.length_append]; omega), List.take_append_of_le_length h, List.drop_append_of_le_length h]

theorem readN_some {n : Nat} {inp a b : Bytes} (h : readN n inp = some (a, b)) :
    a.length = n ∧ b.length + n = inp.length := by
  unfold readN at h
  split at h
  · cases h
  · cases h
    simp only [List.length_take, List.length_drop]
    omega

/-- The header layout shared by requests and responses; bytes 6–7 carry the status of a response
    and are zero in a request. -/
def hdr24 (magic op kl el st tot opq : Nat) : Bytes :=
  UInt8.ofNat magic :: UInt8.ofNat op :: (Bytes.be16 kl ++ (UInt8.ofNat el :: 0 :: (Bytes.be16 st ++
    (Bytes.be32 tot ++ (Bytes.be32 opq ++ Bytes.zeros 8)))))

theorem reqHeader_eq (op kl el tot opq : Nat) :
    reqHeader op kl el tot opq = hdr24 Gen.binprot_MagicRequest op kl el 0 tot opq := rfl

theorem resHeader_eq (op kl el st tot opq : Nat) :
    resHeader op kl el st tot opq = hdr24 Gen.binprot_MagicResponse op kl el st tot opq := rfl

theorem reqHeader_length (op kl el tot opq : Nat) : (reqHeader op kl el tot opq).length = 24 := rfl

theorem hdr24_fields (magic op kl el st tot opq : Nat) (tail : Bytes) (hm : magic < 256) (hop : op < 256)
    (hkl : kl < 65536) (hel : el < 256) (hst : st < 65536) (htot : tot < 4294967296) (hopq : opq < 4294967296) :
    let b := hdr24 magic op kl el st tot opq ++ tail
    (b.getD 0 0).toNat = magic ∧ (b.getD 1 0).toNat = op ∧ Bytes.rd16 (b.drop 2) = kl ∧ (b.getD 4 0).toNat = el ∧
    Bytes.rd16 (b.drop 6) = st ∧ Bytes.rd32 (b.drop 8) = tot ∧ Bytes.rd32 (b.drop 12) = opq ∧
    b.drop 24 = tail ∧ b.length = 24 + tail.length :=
  ⟨UInt8.toNat_ofNat_of_lt' hm, UInt8.toNat_ofNat_of_lt' hop, Bytes.rd16_be16_append kl hkl _,
    UInt8.toNat_ofNat_of_lt' hel, Bytes.rd16_be16_append st hst _, Bytes.rd32_be32_append tot htot _,
    Bytes.rd32_be32_append opq hopq _, rfl, List.length_append⟩

theorem readHeader_ok {op kl el tot opq : Nat} {body : Bytes} (hop : op < 256) (hkl : kl < 65536) (hel : el < 256)
    (htot : tot < 4294967296) (hopq : opq < 4294967296) :
    readRequestHeader (reqHeader op kl el tot opq ++ body) =
      .ok { magic := Gen.binprot_MagicRequest, opcode := op, keyLen := kl, extLen := el, total := tot, opq := opq } body := by
  obtain ⟨h0, h1, h2, h3, -, h5, h6, -, -⟩ := hdr24_fields Gen.binprot_MagicRequest op kl el 0 tot opq [] (by decide) hop
    hkl hel (by decide) htot hopq
  rw [List.append_nil] at h0 h1 h2 h3 h5 h6
  rw [readRequestHeader, readN_append' _ _ _ (reqHeader_length ..), reqHeader_eq]
  simp only [decodeHeader, h0, h1, h2, h3, h5, h6, ne_eq, not_true_eq_false, if_false]

theorem readHeader_some {inp : Bytes} {h : ReqHeader} {rest : Bytes} (hh : readRequestHeader inp = .ok h rest) :
    rest.length + 24 = inp.length ∧ h.keyLen < 65536 ∧ h.total < 4294967296 := by
  unfold readRequestHeader at hh
  split at hh
  · cases hh
  · rename_i b r e
    split at hh
    · cases hh
    · cases hh
      exact ⟨(readN_some e).2, Bytes.rd16_lt _, Bytes.rd32_lt _⟩

end Rend.Wire
