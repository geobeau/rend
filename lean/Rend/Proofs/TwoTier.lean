/-
  The write methods of the two two-tier orchestrators (l1l2.go, l1l2batch.go) are one program,
  `twoTier`, with different parameters: the L2 call, the paired L1 call, which L1 misses are
  tolerated, and whether a refused L1 write is compensated.  Those of the single-tier orchestrator
  (l1only.go) are `oneTier`, the pass-through handler's write calls `Std.call`.  Statements about
  all of them are proved once, about these three.
-/
import Rend.Orcas.Orcas
import Rend.Handlers.Std
import Rend.Proofs.ProgLemmas

namespace Rend

/-- What a two-tier write makes of the L1 handler's result `r1`.
    The get-and-touch methods end the same way, with `ackOr tol none ev` written out: `L1L2.gat`
    after its L1 `add` (tolerating `keyExists`), `L1L2Batch.gat` after its L1 `touch` (tolerating
    `keyNotFound`); the rules for `ackOr` apply to those tails as they stand. -/
def ackOr (tol : HRes Unit → Bool) (comp : Option (OProg (HRes Unit))) (ev : REv) (r1 : HRes Unit) :
    OProg (HRes Unit) :=
  if tol r1 then reply ev
  else match r1 with
    | .ok () => reply ev
    | .error e =>
      match comp with
      | none => pure (.error e)
      | some d => andThen d fun _ => reply ev

def twoTier (op2 op1 : OProg (HRes Unit)) (tol : HRes Unit → Bool) (comp : Option (OProg (HRes Unit))) (ev : REv) :
    OProg (HRes Unit) :=
  andThen op2 fun r2 =>
    match r2 with
    | .error e => pure (.error e)
    | .ok () => andThen op1 (ackOr tol comp ev)

def setComp (h1 : Handler OEv) (k : SetKind) (c : SetCmd) : Option (OProg (HRes Unit)) :=
  match k with
  | .set => some (h1.delete { key := c.key })
  | _ => none

def L1L2.storeTol : SetKind → HRes Unit → Bool
  | .replace, r => isErr r .keyNotFound
  | .append, r => isErr r .itemNotStored || isErr r .keyNotFound
  | .prepend, r => isErr r .itemNotStored || isErr r .keyNotFound
  | _, _ => false

/-- The L1 store that accompanies an L2 store of kind `k` on the batch port, which never creates
    L1 entries. -/
def L1L2Batch.l1Kind : SetKind → SetKind
  | .append => .append
  | .prepend => .prepend
  | _ => .replace

def L1L2Batch.storeTol : SetKind → HRes Unit → Bool
  | .append, r => isErr r .itemNotStored || isErr r .keyNotFound
  | .prepend, r => isErr r .itemNotStored || isErr r .keyNotFound
  | _, r => isErr r .keyNotFound

section
variable (h1 h2 : Handler OEv)

theorem L1L2.step_store (k : SetKind) (c : SetCmd) : L1L2.step h1 h2 (.store k c) =
    twoTier (h2.store k c) (h1.store k c) (L1L2.storeTol k) (setComp h1 k c) (.stored k c.opq c.quiet) := by
  cases k <;> rfl

theorem L1L2Batch.step_store (k : SetKind) (c : SetCmd) : L1L2Batch.step h1 h2 (.store k c) =
    twoTier (h2.store k c) (h1.store (L1L2Batch.l1Kind k) c) (L1L2Batch.storeTol k) (setComp h1 k c)
      (.stored k c.opq c.quiet) := by
  cases k <;> rfl

theorem L1L2.step_delete (c : KeyCmd) : L1L2.step h1 h2 (.delete c) =
    twoTier (h2.delete c) (h1.delete c) (isErr · .keyNotFound) none (.deleted c.opq) := rfl

theorem L1L2.step_touch (c : KeyCmd) : L1L2.step h1 h2 (.touch c) =
    twoTier (h2.touch c) (h1.touch c) (isErr · .keyNotFound) none (.touched c.opq) := rfl

theorem L1L2Batch.step_delete (c : KeyCmd) : L1L2Batch.step h1 h2 (.delete c) =
    twoTier (h2.delete c) (h1.delete c) (isErr · .keyNotFound) none (.deleted c.opq) := rfl

theorem L1L2Batch.step_touch (c : KeyCmd) : L1L2Batch.step h1 h2 (.touch c) =
    twoTier (h2.touch c) (h1.touch c) (isErr · .keyNotFound) none (.touched c.opq) := rfl

end

def oneTier (op : OProg (HRes Unit)) (ev : REv) : OProg (HRes Unit) :=
  andThen op fun r =>
    match r with
    | .ok () => reply ev
    | e => pure e

theorem L1Only.step_store (h1 : Handler OEv) (k : SetKind) (c : SetCmd) :
    L1Only.step h1 (.store k c) = oneTier (h1.store k c) (.stored k c.opq c.quiet) := rfl

theorem L1Only.step_delete (h1 : Handler OEv) (c : KeyCmd) :
    L1Only.step h1 (.delete c) = oneTier (h1.delete c) (.deleted c.opq) := rfl

theorem L1Only.step_touch (h1 : Handler OEv) (c : KeyCmd) :
    L1Only.step h1 (.touch c) = oneTier (h1.touch c) (.touched c.opq) := rfl

def Std.call {ε : Type} (t : Tier) (r : Req) (dec : Resp → HRes Unit) : Prog ε (HRes Unit) := do
  let x ← Prog.req t r
  pure (dec x)

/-- How the pass-through handler reads the answer to a write request.  A connection lost while
    the answer is read makes `store` panic (the nil header of `handleSetCommon`) and `delete` /
    `touch` return the I/O error. -/
def stdRes (panics : Bool) : Resp → HRes Unit
  | .io => .error (if panics then .panic else .io)
  | .wfail => .error .io
  | .status s =>
    match decodeError s with
    | some e => .error (.app e)
    | none => .ok ()
  | _ => .ok ()

theorem Std.store_eq_call {ε : Type} (t : Tier) (k : SetKind) (c : SetCmd) :
    Std.store (ε := ε) t k c = Std.call t (Std.storeReq k c) (stdRes true) := by
  unfold Std.store Std.call
  congr
  funext x
  cases x with
  | status s => simp only [stdRes]; cases decodeError s <;> rfl
  | _ => rfl

theorem Std.simple_eq_call {ε : Type} (t : Tier) (r : Req) : Std.simple (ε := ε) t r = Std.call t r (stdRes false) := by
  unfold Std.simple Std.call
  congr
  funext x
  cases x with
  | status s => simp only [stdRes]; cases decodeError s <;> rfl
  | _ => rfl

namespace AllReqs
variable {P : Tier → Req → Prop}

theorem andThen {α β : Type} {p : OProg (HRes α)} {k : HRes α → OProg (HRes β)} (hp : AllReqs P p)
    (hk : ∀ r, AllReqs P (k r)) : AllReqs P (andThen p k) := by
  unfold Rend.andThen
  refine bind hp fun r => ?_
  split
  · exact pure _
  · exact pure _
  · exact hk r

theorem reply (e : REv) : AllReqs P (reply e) := AllReqs.emit _ _ (AllReqs.ret _)

theorem ackOr {tol : HRes Unit → Bool} {comp : Option (OProg (HRes Unit))} {ev : REv}
    (hc : ∀ d, comp = some d → AllReqs P d) (r1 : HRes Unit) : AllReqs P (ackOr tol comp ev r1) := by
  unfold Rend.ackOr
  split
  · exact reply ev
  · cases r1 with
    | ok u => exact reply ev
    | error e =>
      cases comp with
      | none => exact pure _
      | some d => exact andThen (hc d rfl) fun _ => reply ev

theorem twoTier {op2 op1 : OProg (HRes Unit)} {tol : HRes Unit → Bool} {comp : Option (OProg (HRes Unit))} {ev : REv}
    (h2 : AllReqs P op2) (h1 : AllReqs P op1) (hc : ∀ d, comp = some d → AllReqs P d) :
    AllReqs P (Rend.twoTier op2 op1 tol comp ev) := by
  refine andThen h2 fun r2 => ?_
  cases r2 with
  | error e => exact pure _
  | ok u => exact andThen h1 (ackOr hc)

theorem oneTier {op : OProg (HRes Unit)} {ev : REv} (h : AllReqs P op) : AllReqs P (oneTier op ev) :=
  andThen h fun r => by
    split
    · exact reply _
    · exact pure _

end AllReqs

/-- What the two two-tier gets share; `rest` is given the keys L1 missed and L1's error. -/
def getVia (h1 : Handler OEv) (g : GetCmd) (rest : List GetKey → Option HErr → OProg (HRes Unit)) :
    OProg (HRes Unit) := do
  let (rs1, err1) ← h1.get g.keys
  let (hits, l2keys) := L1L2.splitL1 rs1
  emitGets hits
  if l2keys.isEmpty then
    match err1 with
    | some e => pure (.error e)
    | none => reply (.getEnd g.noopOpaque g.noopEnd)
  else rest l2keys err1

theorem L1L2.get_eq (h1 h2 : Handler OEv) (g : GetCmd) : L1L2.get h1 h2 g = getVia h1 g (fun l2keys err1 => do
    let (rs2, err2) ← h2.getE l2keys
    andThen (L1L2.backfill h1 rs2) fun _ =>
      let err := match err2 with
        | some e => some e
        | none => err1
      match err with
      | none => reply (.getEnd g.noopOpaque g.noopEnd)
      | some e => pure (.error e)) := rfl

theorem L1L2Batch.get_eq (h1 h2 : Handler OEv) (g : GetCmd) : L1L2Batch.get h1 h2 g = getVia h1 g (fun l2keys err1 => do
    let (rs2, err2) ← h2.get l2keys
    emitGets (rs2.map fun r => { key := r.key, flags := r.flags, data := r.data, miss := r.miss, opq := r.opq, quiet := r.quiet })
    let err := match err2 with
      | some e => some e
      | none => err1
    match err with
    | none => reply (.getEnd g.noopOpaque g.noopEnd)
    | some e => pure (.error e)) := rfl

end Rend
