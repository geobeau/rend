/-
  What a fault-free set and a fault-free delete through the chunked handler leave in the store;
  the chunk writes in closed form (`setChunks`).
-/
import Rend.Proofs.ChunkedReqs
import Rend.Proofs.Eval
import Rend.Proofs.EvalInvariant

namespace Rend.Chunked
open Rend
variable {ε : Type}

theorem look_set_same (s : Store) (now : Nat) (k : Bytes) (it : Item) (hl : it.live now = true) :
    (s.set k (some it)).look now k = some it := by
  rw [Store.look_set_same, if_pos hl]

def setChunks (s : Store) (key : Bytes) (it : Nat → Item) (i n : Nat) : Store :=
  (List.range' i n).foldl (fun s j => s.set (chunkKey key j) (some (it j))) s

theorem setChunks_succ (s : Store) (key : Bytes) (it : Nat → Item) (i n : Nat) :
    setChunks s key it i (n + 1) = setChunks (s.set (chunkKey key i) (some (it i))) key it (i + 1) n := rfl

theorem setChunks_chunk (s : Store) (key : Bytes) (it : Nat → Item) {i n j : Nat} (h1 : i ≤ j) (h2 : j < i + n) :
    setChunks s key it i n (chunkKey key j) = some (it j) :=
  Store.foldl_set_of_mem (chunkKey key) (fun j => some (it j)) (fun _ _ e => (chunkKey_inj _ _ _ _ e).2) _ s
    (List.mem_range'_1.mpr ⟨h1, h2⟩)

theorem setChunks_other (s : Store) (key : Bytes) (it : Nat → Item) (i n : Nat) {k : Bytes}
    (h : ∀ j, i ≤ j → j < i + n → k ≠ chunkKey key j) : setChunks s key it i n k = s k :=
  Store.foldl_set_of_not_mem _ _ k _ s fun j hj => h j (List.mem_range'_1.mp hj).1 (List.mem_range'_1.mp hj).2

theorem eval_writeChunks (now : Nat) (t : Tier) (c : SetCmd) (token : Bytes) (ds : Nat) (tk : List Bytes) :
    ∀ (n i : Nat) (w : World),
      (writeChunks (ε := ε) t c token ds n i).eval now w tk =
        (.ok (), [], w.put t (setChunks (w.get t) c.key
          (fun j => ⟨token ++ chunkPayload c.data ds j, c.flags, deadlineOf now c.exptime⟩) i n), tk)
  | 0, i, w => by
    show (_, _, w, tk) = (_, _, w.put t (w.get t), tk)
    rw [World.put_get_self]
  | n + 1, i, w => by
    simp only [writeChunks, Prog.eval_bind, Prog.eval_req, Mc.exec, List.nil_append]
    rw [eval_writeChunks now t c token ds tk n (i + 1), World.get_put_same, World.put_put_same, setChunks_succ]

theorem eval_setCommon_set (now : Nat) (t : Tier) (c : SetCmd) (w : World) (tok : Bytes) (tk : List Bytes) :
    (setCommon (ε := ε) t now .set c).eval now w (tok :: tk) =
      (.ok (), [], w.put t (setChunks
        ((w.get t).set (metaKey c.key) (some ⟨encodeMeta (setMeta now c tok), c.flags, deadlineOf now c.exptime⟩)) c.key
        (fun j => ⟨tok ++ chunkPayload c.data (setMeta now c tok).chunkSize j, c.flags, deadlineOf now c.exptime⟩)
        0 (setMeta now c tok).numChunks), tk) := by
  -- one constructor of the program at a time: a bare `rfl` is slow to check
  show Prog.eval now (Prog.draw _) w (tok :: tk) = _
  rw [Prog.eval]
  show Prog.eval now (Prog.call _ _ _) w tk = _
  rw [Prog.eval]
  refine (eval_writeChunks now t c tok _ tk _ 0 _).trans ?_
  rw [World.get_put_same, World.put_put_same]
  rfl

/-- A delete draws no token: `htk` is what `AllReqs.eval_untouched` asks of any program. -/
theorem delete_removes_meta (now : Nat) (t : Tier) (c : KeyCmd) (w : World) (tk : List Bytes)
    (htk : ∀ x ∈ tk, x.length = 16) :
    (((Chunked.delete (ε := ε) t c).eval now w tk).2.2.1.get t).look now (metaKey c.key) = none := by
  simp only [Chunked.delete, Prog.eval_bind, Prog.eval_req, Mc.exec]
  cases hl : (w.get t).look now (metaKey c.key) with
  | none => simp [metaOf, decode_notFound, hl]
  | some it =>
    simp only [World.put_get_self, metaOf, hl, Prog.eval_bind, Prog.eval_req, Mc.exec]
    -- the chunk deletes leave the metadata key as the metadata delete left it
    have hu := (pipeChunks_sends (ε := ε) (P := fun t' r => t' = t → r.op = .noop ∨ r.key ≠ metaKey c.key)
        t (fun k => { op := .delete, key := k }) c.key
        (fun j _ => Or.inr (metaKey_ne_chunkKey c.key c.key j).symm) (decodeMeta it.data).numChunks 0).reqs.eval_untouched
      now t (metaKey c.key) (w.put t ((w.get t).set (metaKey c.key) none)) tk htk
    split <;> simp [Store.look, hu, Store.set]

end Rend.Chunked
