/-
  The read loop on a run of chunk entries: slice by slice the buffer comes to agree with the value
  on a longer prefix, so the chunks of one intent, in order, give back that intent's value.
-/
import Rend.Proofs.ChunkedLayout

namespace Rend.Chunked
open Rend

def hitStep (md : Meta) (s : ReadSt) (d : Bytes) : ReadSt := (readStep md s (.hit 0 0 d)).1

theorem readStep_hit (md : Meta) (s : ReadSt) (f e : Nat) (d : Bytes) :
    readStep md s (.hit f e d) = (hitStep md s d, true) := rfl

theorem hitStep_chunk (md : Meta) (s : ReadSt) (d : Bytes) : (hitStep md s d).chunk = s.chunk + 1 := rfl
theorem hitStep_lastErr (md : Meta) (s : ReadSt) (d : Bytes) : (hitStep md s d).lastErr = s.lastErr := rfl
theorem hitStep_miss (md : Meta) (s : ReadSt) (d : Bytes) :
    (hitStep md s d).miss = (s.miss || d.take Gen.chunked_tokenSize != md.token) := rfl

theorem foldl_chunk_lastErr (md : Meta) : ∀ (its : List Item) (s : ReadSt),
    (its.foldl (fun s it => hitStep md s it.data) s).chunk = s.chunk + its.length ∧
    (its.foldl (fun s it => hitStep md s it.data) s).lastErr = s.lastErr
  | [], s => ⟨rfl, rfl⟩
  | it :: rest, s => by
    obtain ⟨h1, h2⟩ := foldl_chunk_lastErr md rest (hitStep md s it.data)
    simp only [List.foldl_cons, List.length_cons]
    rw [h1, h2, hitStep_chunk, hitStep_lastErr]
    exact ⟨by omega, rfl⟩

theorem foldl_miss (md : Meta) : ∀ (its : List Item) (s : ReadSt),
    (its.foldl (fun s it => hitStep md s it.data) s).miss =
      (s.miss || its.any (fun it => it.data.take Gen.chunked_tokenSize != md.token))
  | [], s => by simp
  | it :: rest, s => by
    simp only [List.foldl_cons, List.any_cons]
    rw [foldl_miss md rest, hitStep_miss, Bool.or_assoc]

theorem readLoop_hits (md : Meta) : ∀ (its : List Item) (s : ReadSt),
    readLoop md s (its.map (fun it => Resp.hit it.flags 0 it.data) ++ [.ok]) =
      { (its.foldl (fun s it => hitStep md s it.data) s) with sawNoop := true }
  | [], s => by simp [readLoop, readStep]
  | it :: rest, s => by
    simp only [List.map_cons, List.cons_append, readLoop, readStep_hit, if_true, List.foldl_cons]
    exact readLoop_hits md rest _

/-- The tail of `readChunks` as a function of the responses to its requests (`readChunks_eq`).  Of the
    like-named: `ReadOut` is the model's outcome type, `readResult` below the outcome as a function of the
    entries served, `readKey` (ChunkedRead) as a function of the store. -/
def readOut (md : Meta) (rs : List Resp) : ReadOut :=
  let s := readLoop md { buf := Bytes.zeros md.length } rs
  match s.lastErr with
  | some e => .err e
  | none => if !s.sawNoop then .err .io else if s.chunk != md.numChunks || s.miss then .miss else .value s.buf

theorem readChunks_eq {ε : Type} (t : Tier) (op : Op) (key : Bytes) (e : Nat) (md : Meta) :
    readChunks (ε := ε) t op key e md =
      (do let rs ← askChunks t op key e md.numChunks 0
          let nr ← Prog.req t { op := .noop }
          pure (readOut md (rs ++ [noopEnds nr]))) := by
  unfold readChunks readOut
  congr 1; funext rs; congr 1; funext nr
  generalize readLoop md _ (rs ++ [noopEnds nr]) = s
  obtain ⟨buf, chunk, miss, lastErr, sawNoop⟩ := s
  cases lastErr with
  | some e => rfl
  | none =>
    cases sawNoop with
    | false => rfl
    | true => exact (apply_ite pure _ _ _).symm

/-- The outcome of the read phase when exactly the entries `its` are served, in order (`readOut_hits`). -/
def readResult (md : Meta) (its : List Item) : ReadOut :=
  let s := its.foldl (fun s it => hitStep md s it.data) { buf := Bytes.zeros md.length }
  if its.length != md.numChunks || s.miss then ReadOut.miss else ReadOut.value s.buf

theorem readOut_hits (md : Meta) (its : List Item) :
    readOut md (its.map (fun it => Resp.hit it.flags 0 it.data) ++ [.ok]) = readResult md its := by
  have hc := foldl_chunk_lastErr md its { buf := Bytes.zeros md.length }
  simp only [readOut, readLoop_hits, hc.1, hc.2, Nat.zero_add, Bool.not_true, Bool.false_eq_true, if_false, readResult]

theorem readResult_cases (md : Meta) (its : List Item) :
    readResult md its = .miss ∨ ∃ d, readResult md its = .value d := by
  unfold readResult
  dsimp only
  split
  · exact Or.inl rfl
  · exact Or.inr ⟨_, rfl⟩

theorem sliceIdx_nat (ds i L : Nat) :
    (Gen.chunkSliceIndices (ds : Int) (i : Int) (L : Int)).1.toNat = ds * i ∧
    (Gen.chunkSliceIndices (ds : Int) (i : Int) (L : Int)).2.toNat = min (ds * i + ds) L := by
  simp only [Gen.chunkSliceIndices]
  have h : (ds : Int) * (i : Int) = ((ds * i : Nat) : Int) := (Int.natCast_mul ds i).symm
  rw [h]
  constructor
  · exact Int.toNat_natCast _
  · omega

theorem zeros_length (n : Nat) : (Bytes.zeros n).length = n := Bytes.zeros_length n

def AgreesTo (buf data : Bytes) (k : Nat) : Prop := buf.length = data.length ∧ buf.take k = data.take k

theorem agreesTo_zeros (data : Bytes) : AgreesTo (Bytes.zeros data.length) data 0 :=
  ⟨Bytes.zeros_length _, rfl⟩

theorem AgreesTo.eq {buf data : Bytes} {k : Nat} (h : AgreesTo buf data k) (hk : data.length ≤ k) : buf = data := by
  calc buf = buf.take k := (List.take_of_length_le (h.1 ▸ hk)).symm
    _ = data.take k := h.2
    _ = data := List.take_of_length_le hk

/-- The buffer update of `readStep`'s hit case, for the chunk that starts at `a`: the agreed prefix grows by `ds`. -/
theorem AgreesTo.copy {buf data : Bytes} {a : Nat} (h : AgreesTo buf data a) (ha : a ≤ data.length) (ds : Nat) :
    AgreesTo (buf.take a ++
        ((data.drop a).take ds ++ Bytes.zeros (ds - ((data.drop a).take ds).length)).take (min (a + ds) data.length - a) ++
        buf.drop (min (a + ds) data.length)) data (a + ds) := by
  have hp : ((data.drop a).take ds).length = min (a + ds) data.length - a := by
    rw [List.length_take, List.length_drop]; omega
  rw [h.2, List.take_left' hp, ← List.take_add]
  have hl : (data.take (a + ds)).length = min (a + ds) data.length := List.length_take
  have hd : (buf.drop (min (a + ds) data.length)).length = data.length - min (a + ds) data.length := by
    rw [List.length_drop, h.1]
  refine ⟨by rw [List.length_append, hl, hd]; omega, ?_⟩
  rw [List.take_append, List.take_take, Nat.min_self, hl]
  have : (buf.drop (min (a + ds) data.length)).take (a + ds - min (a + ds) data.length) = [] :=
    List.eq_nil_of_length_eq_zero (by rw [List.length_take, hd]; omega)
  rw [this, List.append_nil]

theorem hitStep_own (md : Meta) (data tok buf : Bytes) (ds i : Nat) (m : Bool) (e : Option HErr) (sn : Bool)
    (hl : md.length = data.length) (hc : md.chunkSize = ds) (ht : tok.length = 16) (hi : ds * i ≤ data.length)
    (hb : AgreesTo buf data (ds * i)) :
    ∃ buf', AgreesTo buf' data (ds * (i + 1)) ∧
      hitStep md { buf := buf, chunk := i, miss := m, lastErr := e, sawNoop := sn } (tok ++ chunkPayload data ds i) =
        { buf := buf', chunk := i + 1, miss := m || tok != md.token, lastErr := e, sawNoop := sn } := by
  have hidx := sliceIdx_nat ds i data.length
  have htake : (tok ++ chunkPayload data ds i).take 16 = tok := List.take_left' ht
  have hdrop : (tok ++ chunkPayload data ds i).drop 16 = chunkPayload data ds i := by
    rw [← ht]; simp
  refine ⟨buf.take (ds * i) ++ (chunkPayload data ds i).take (min (ds * i + ds) data.length - ds * i) ++
    buf.drop (min (ds * i + ds) data.length), ?_, ?_⟩
  · rw [Nat.mul_succ]
    exact hb.copy hi ds
  · simp only [hitStep, readStep, hl, hc, Gen.chunked_tokenSize, htake, hdrop, hidx.1, hidx.2]

/-- The bound on `i + n` says that the last chunk starts inside the value (`Intent.n_spec.2` gives it for
    `n = h.n`, `i = 0`); from it every chunk on the way starts at some `ds * i ≤ data.length`, which
    `AgreesTo.copy` asks. -/
theorem foldl_own (md : Meta) (h : Intent) (hl : md.length = h.data.length) (hc : md.chunkSize = h.ds)
    (ht : h.token.length = 16) (htok : md.token = h.token) :
    ∀ (n i : Nat) (buf : Bytes) (e : Option HErr) (sn : Bool), h.ds * (i + n) < h.data.length + h.ds →
      AgreesTo buf h.data (h.ds * i) →
      ∃ buf', AgreesTo buf' h.data (h.ds * (i + n)) ∧
        ((List.range' i n).map h.chunkVal).foldl (fun s d => hitStep md s d)
            { buf := buf, chunk := i, miss := false, lastErr := e, sawNoop := sn } =
          { buf := buf', chunk := i + n, miss := false, lastErr := e, sawNoop := sn }
  | 0, i, buf, e, sn, _, hb => ⟨buf, hb, rfl⟩
  | n + 1, i, buf, e, sn, hlt, hb => by
    have hidx : i + 1 + n = i + (n + 1) := by omega
    have hi : h.ds * i ≤ h.data.length := by
      have : h.ds * (i + (n + 1)) = h.ds * i + h.ds * n + h.ds := by
        rw [Nat.mul_add, Nat.mul_add, Nat.mul_one, Nat.add_assoc]
      omega
    obtain ⟨b1, hb1, e1⟩ := hitStep_own md h.data h.token buf h.ds i false e sn hl hc ht hi hb
    obtain ⟨b2, hb2, e2⟩ := foldl_own md h hl hc ht htok n (i + 1) b1 e sn (hidx ▸ hlt) hb1
    refine ⟨b2, hidx ▸ hb2, ?_⟩
    rw [List.range'_succ, List.map_cons, List.foldl_cons, show h.chunkVal i = h.token ++ chunkPayload h.data h.ds i from rfl,
      e1, show (false || h.token != md.token) = false by simp [htok], e2, hidx]

theorem foldl_own_all (md : Meta) (h : Intent) (hk : h.key.length ≤ 250) (hl : md.length = h.data.length)
    (hc : md.chunkSize = h.ds) (ht : h.token.length = 16) (htok : md.token = h.token) :
    ((List.range' 0 h.n).map h.chunkVal).foldl (fun s d => hitStep md s d) { buf := Bytes.zeros md.length } =
      { buf := h.data, chunk := h.n, miss := false, lastErr := none, sawNoop := false } := by
  have hspec := h.n_spec hk
  obtain ⟨buf, hb, e⟩ := foldl_own md h hl hc ht htok h.n 0 _ none false
    (by rw [Nat.zero_add, Nat.mul_comm]; exact hspec.2) (hl ▸ agreesTo_zeros h.data)
  rw [Nat.zero_add] at hb e
  rw [e, hb.eq (by rw [Nat.mul_comm]; exact hspec.1)]

theorem readResult_own (md : Meta) (h : Intent) (hd : h.Describes md) (hk : h.key.length ≤ 250) (ht : h.token.length = 16)
    (its : List Item) (hits : its.map (·.data) = (List.range' 0 md.numChunks).map h.chunkVal) :
    readResult md its = .value h.data := by
  obtain ⟨htok, hlen, _, hn, hcs⟩ := hd
  have hl : its.length = md.numChunks := by simpa using congrArg List.length hits
  have hfold := foldl_own_all md h hk hlen hcs ht htok
  rw [← hn, ← hits, List.foldl_map] at hfold
  simp [readResult, hfold, hl]

end Rend.Chunked
