/-
  The reduction of C03 for sections with a FOOTPRINT given as a set of keys (in either tier): a
  client key's derived keys under the chunking handler, the private keys of one connection, ….
  The scheduler `Step1F` is defined here; the theorems are the case of SerialFootT.lean in which a
  footprint holds the same keys in both tiers (`ThreadF.toT`).  The vocabulary by key sets (`RefF`,
  `seqRunF`, `seqObsF`, `seqEndF`, `InvF`) is kept and shown to be the location form at such
  footprints (`seqRunT_eq_seqRunF`, `seqObsT_eq_seqObsF`, `seqEndT_eq_seqEndF`, `InvT.toInvF`).
-/
import Rend.Proofs.Serial

namespace Rend.Conc
open Rend

/-- `FootLocalT` of the keys of `F` in both tiers (`footLocal_eq`). -/
def FootLocal (F : Bytes → Prop) : Tier → Req → Prop := fun _ r => F r.key ∨ r.op = .noop

/-- `ThreadT` for a command whose footprint is a set of keys, the same in both tiers (`ThreadF.toT`). -/
structure ThreadF (α : Type) where
  foot : Bytes → Prop
  stripe : Nat
  body : Prog OEv α

/-- One scheduling step under exclusive stripe locks: `StepWith` for `exclAdm`, written out
    (`step1F_iff`).  The footprints are not read. -/
inductive Step1F {α : Type} (now : Nat) (thr : Nat → ThreadF α) : Conf α → Step → Conf α → Prop where
  | acq (c : Conf α) (i : Nat) : c.ts i = .idle →
      (∀ j p evs, c.ts j = .running p evs → (thr j).stripe ≠ (thr i).stripe) →
      Step1F now thr c (.acq i) (c.set i (.running (thr i).body []))
  | call (c : Conf α) (i : Nat) (t : Tier) (r : Req) (k : Resp → Prog OEv α) (evs : List OEv) :
      c.ts i = .running (.call t r k) evs →
      Step1F now thr c (.act i)
        (Conf.set { w := c.w.put t (Mc.exec now (c.w.get t) r).1, ts := c.ts } i
          (.running (k (Mc.exec now (c.w.get t) r).2) evs))
  | emit (c : Conf α) (i : Nat) (e : OEv) (p : Prog OEv α) (evs : List OEv) :
      c.ts i = .running (.emit e p) evs → Step1F now thr c (.act i) (c.set i (.running p (evs ++ [e])))
  | draw (c : Conf α) (i : Nat) (k : Bytes → Prog OEv α) (evs : List OEv) :
      c.ts i = .running (.draw k) evs → Step1F now thr c (.act i) (c.set i (.running (k (Bytes.zeros 16)) evs))
  | rel (c : Conf α) (i : Nat) (a : α) (evs : List OEv) :
      c.ts i = .running (.ret a) evs → Step1F now thr c (.rel i) (c.set i (.done a evs))

/-- `ExecWith`, written out (`execF_iff`). -/
inductive ExecF {α : Type} (now : Nat) (thr : Nat → ThreadF α) : Conf α → List Step → Conf α → Prop where
  | nil (c : Conf α) : ExecF now thr c [] c
  | cons (c c' c'' : Conf α) (s : Step) (rest : List Step) : Step1F now thr c s c' → ExecF now thr c' rest c'' →
      ExecF now thr c (s :: rest) c''

theorem step1F_iff {α : Type} {now : Nat} {thr : Nat → ThreadF α} {c c' : Conf α} {s : Step} :
    Step1F now thr c s c' ↔ StepWith now (fun i => (thr i).body) (exclAdm fun i => (thr i).stripe) c s c' :=
  ⟨fun h => by cases h <;> constructor <;> assumption, fun h => by cases h <;> constructor <;> assumption⟩

theorem execF_iff {α : Type} {now : Nat} {thr : Nat → ThreadF α} {c c' : Conf α} {sched : List Step} :
    ExecF now thr c sched c' ↔ ExecWith now (fun i => (thr i).body) (exclAdm fun i => (thr i).stripe) c sched c' := by
  constructor
  · intro h
    induction h with
    | nil c => exact .nil c
    | cons c d e s rest hs _ ih => exact .cons c d e s rest (step1F_iff.mp hs) ih
  · intro h
    induction h with
    | nil c => exact .nil c
    | cons c d e s rest hs _ ih => exact .cons c d e s rest (step1F_iff.mpr hs) ih

def ThreadF.toT {α : Type} (t : ThreadF α) : ThreadT α :=
  { foot := fun l => t.foot l.2, stripe := t.stripe, body := t.body }

/-- By definition: hypotheses on a section's requests pass between the two forms as they are. -/
theorem footLocal_eq (F : Bytes → Prop) : FootLocal F = FootLocalT fun l => F l.2 := rfl

theorem ExecF.toT {α : Type} {now : Nat} {thr : Nat → ThreadF α} {c c' : Conf α} {sched : List Step}
    (h : ExecF now thr c sched c') : ExecT now (fun i => (thr i).toT) c sched c' :=
  execT_iff.mpr (execF_iff.mp h)

structure RefF (α : Type) where
  w : World
  res : Nat → Option (α × List OEv)

def RefF.runOne {α : Type} (now : Nat) (thr : Nat → ThreadF α) (r : RefF α) (i : Nat) : RefF α :=
  { w := ((thr i).body.eval now r.w []).2.2.1,
    res := fun j => if j = i then some (((thr i).body.eval now r.w []).1, ((thr i).body.eval now r.w []).2.1) else r.res j }

def seqRunF {α : Type} (now : Nat) (thr : Nat → ThreadF α) (r : RefF α) (order : List Nat) : RefF α :=
  order.foldl (RefF.runOne now thr) r

def seqObsF {α : Type} (now : Nat) (thr : Nat → ThreadF α) (w : World) : List Nat → List (α × List OEv)
  | [] => []
  | i :: rest =>
    (((thr i).body.eval now w []).1, ((thr i).body.eval now w []).2.1) ::
      seqObsF now thr ((thr i).body.eval now w []).2.2.1 rest

def seqEndF {α : Type} (now : Nat) (thr : Nat → ThreadF α) (w : World) : List Nat → World
  | [] => w
  | i :: rest => seqEndF now thr ((thr i).body.eval now w []).2.2.1 rest

/-! The sequential runs look at the bodies only.  `thrT` is any family of sections with the bodies of
    `thr` (`hb`), not just `fun i => (thr i).toT`: ChunkedSerial.lean compares the `toF` with the
    `toT` sections of one deployment, whose footprints differ. -/

theorem seqRunT_eq_seqRunF {α : Type} (now : Nat) (thr : Nat → ThreadF α) (thrT : Nat → ThreadT α)
    (hb : ∀ i, (thrT i).body = (thr i).body) : ∀ (order : List Nat) (r : RefF α),
    seqRunT now thrT ⟨r.w, r.res⟩ order = ⟨(seqRunF now thr r order).w, (seqRunF now thr r order).res⟩
  | [], _ => rfl
  | i :: order, r => by
    have step : RefT.runOne now thrT ⟨r.w, r.res⟩ i = ⟨(r.runOne now thr i).w, (r.runOne now thr i).res⟩ := by
      simp only [RefT.runOne, RefF.runOne, hb i]
    show seqRunT now thrT (RefT.runOne now thrT ⟨r.w, r.res⟩ i) order = _
    rw [step]
    exact seqRunT_eq_seqRunF now thr thrT hb order (r.runOne now thr i)

theorem seqEndT_eq_seqEndF {α : Type} (now : Nat) (thr : Nat → ThreadF α) (thrT : Nat → ThreadT α)
    (hb : ∀ i, (thrT i).body = (thr i).body) : ∀ (order : List Nat) (w : World),
    seqEndT now thrT w order = seqEndF now thr w order
  | [], _ => rfl
  | i :: order, w => by
    simp only [seqEndT, seqEndF, hb i]
    exact seqEndT_eq_seqEndF now thr thrT hb order _

theorem seqObsT_eq_seqObsF {α : Type} (now : Nat) (thr : Nat → ThreadF α) (thrT : Nat → ThreadT α)
    (hb : ∀ i, (thrT i).body = (thr i).body) : ∀ (order : List Nat) (w : World),
    seqObsT now thrT w order = seqObsF now thr w order
  | [], _ => rfl
  | i :: order, w => by
    simp only [seqObsT, seqObsF, hb i]
    rw [seqObsT_eq_seqObsF now thr thrT hb order _]

/-- `InvT` in terms of key sets (`InvT.toInvF`). -/
structure InvF {α : Type} (now : Nat) (thr : Nat → ThreadF α) (c : Conf α) (r : RefF α) : Prop where
  running : ∀ i p evs, c.ts i = .running p evs →
    AllReqs (FootLocal (thr i).foot) p ∧
    r.res i = some ((p.eval now c.w []).1, evs ++ (p.eval now c.w []).2.1) ∧
    ∀ k, (thr i).foot k → at' (p.eval now c.w []).2.2.1 k = at' r.w k
  done : ∀ i a evs, c.ts i = .done a evs → r.res i = some (a, evs)
  quiet : ∀ k, (∀ j p evs, c.ts j = .running p evs → ¬ (thr j).foot k) → at' c.w k = at' r.w k
  excl : ∀ i j p evs q evs', i ≠ j → c.ts i = .running p evs → c.ts j = .running q evs' →
    (thr i).stripe ≠ (thr j).stripe

theorem InvT.toInvF {α : Type} {now : Nat} {thr : Nat → ThreadF α} {c : Conf α} {r : RefF α}
    (h : InvT now (fun i => (thr i).toT) c ⟨r.w, r.res⟩) : InvF now thr c r where
  running i p evs hi :=
    have ⟨a, b, d⟩ := h.running i p evs hi
    ⟨a, b, fun k hk => at'_congr.mpr fun t => d (t, k) hk⟩
  done := h.done
  quiet k hk := at'_congr.mpr fun t => h.quiet (t, k) hk
  excl := h.excl

theorem ExecF.invF {α : Type} {now : Nat} {thr : Nat → ThreadF α}
    (hbody : ∀ i, AllReqs (FootLocal (thr i).foot) (thr i).body)
    (hkey : ∀ i j k, (thr i).foot k → (thr j).foot k → (thr i).stripe = (thr j).stripe)
    {w : World} {sched : List Step} {c' : Conf α} (hex : ExecF now thr (Conf.init w) sched c') :
    InvF now thr c' (seqRunF now thr { w := w, res := fun _ => none } (acqOrder sched)) := by
  have h := hex.toT.invT (thr := fun i => (thr i).toT) hbody (fun i j l => hkey i j l.2) (invT_init now _ w)
  rw [seqRunT_eq_seqRunF now thr _ (fun _ => rfl) _ { w := w, res := fun _ => none }] at h
  exact h.toInvF

theorem serializableF {α : Type} (now : Nat) (thr : Nat → ThreadF α)
    (hbody : ∀ i, AllReqs (FootLocal (thr i).foot) (thr i).body)
    (hkey : ∀ i j k, (thr i).foot k → (thr j).foot k → (thr i).stripe = (thr j).stripe)
    (w : World) (sched : List Step) (c' : Conf α) (hex : ExecF now thr (Conf.init w) sched c')
    (hquiet : ∀ i p evs, c'.ts i ≠ .running p evs) :
    c'.w = (seqRunF now thr { w := w, res := fun _ => none } (acqOrder sched)).w ∧
    ∀ i a evs, c'.ts i = .done a evs →
      (seqRunF now thr { w := w, res := fun _ => none } (acqOrder sched)).res i = some (a, evs) :=
  have h := hex.invF hbody hkey
  ⟨world_ext _ _ fun k => h.quiet k fun j p evs hj => absurd hj (hquiet j p evs), h.done⟩

theorem serializableFF_obs {α : Type} (now : Nat) (thr : Nat → ThreadF α)
    (hbody : ∀ i, AllReqs (FootLocal (thr i).foot) (thr i).body)
    (hkey : ∀ i j k, (thr i).foot k → (thr j).foot k → (thr i).stripe = (thr j).stripe)
    (w : World) (sched : List Step) (c' : Conf α) (hex : ExecF now thr (Conf.init w) sched c')
    (hquiet : ∀ i p evs, c'.ts i ≠ .running p evs) :
    c'.w = seqEndF now thr w (acqOrder sched) ∧
    (acqOrder sched).map c'.ts = (seqObsF now thr w (acqOrder sched)).map (fun o => TState.done o.1 o.2) := by
  have h := serializableTT_obs now (fun i => (thr i).toT) hbody (fun i j l => hkey i j l.2) w sched c' hex.toT hquiet
  rw [seqEndT_eq_seqEndF now thr _ fun _ => rfl, seqObsT_eq_seqObsF now thr _ fun _ => rfl] at h
  exact h

/-- `aloneT` at footprints given by key sets.  `hquiet` is not used. -/
theorem alone {α : Type} (now : Nat) (thr : Nat → ThreadF α)
    (hbody : ∀ i, AllReqs (FootLocal (thr i).foot) (thr i).body)
    (hdisj : ∀ i j k, (thr i).foot k → (thr j).foot k → i = j)
    (w : World) (sched : List Step) (c' : Conf α) (hex : ExecF now thr (Conf.init w) sched c')
    (hquiet : ∀ i p evs, c'.ts i ≠ .running p evs) :
    (∀ i a evs, c'.ts i = .done a evs →
      a = ((thr i).body.eval now w []).1 ∧ evs = ((thr i).body.eval now w []).2.1 ∧
      ∀ k, (thr i).foot k → at' c'.w k = at' ((thr i).body.eval now w []).2.2.1 k) ∧
    (∀ k, (∀ i, ¬ (thr i).foot k) → at' c'.w k = at' w k) :=
  have ⟨h1, h2⟩ := aloneT now (fun i => (thr i).toT) hbody (fun i j l => hdisj i j l.2) w sched c' hex.toT
  ⟨fun i a evs hi =>
    have ⟨x, y, z⟩ := h1 i a evs hi
    ⟨x, y, fun k hk => at'_congr.mpr fun t => z (t, k) hk⟩,
   fun k hk => at'_congr.mpr fun t => h2 (t, k) hk⟩

end Rend.Conc
