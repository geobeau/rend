/-
  Finding D23 in the model: with a chunked L1 in front of L2, an `add` of a key that L2 does not
  hold, while L1 still holds a live METADATA entry of that key (what stays behind when L1 loses a
  chunk entry and the key ends in L2), is stored in L2 and answered "key exists".
-/
import Rend.Proofs.Eval
import Rend.Proofs.McOps
import Rend.Orcas.Orcas
import Rend.Handlers.Chunked

namespace Rend
open Rend.Chunked

/-- The order is what matters: `L1L2.add` sends L2's `add` first, which stores the value (`e2`), and only then
    L1's, whose first request (`setCommon`'s `add` of the metadata entry) meets the remnant and is refused;
    that refusal is the answer, and nothing takes L2's entry back.  The `simp only` unfolds the orchestrator
    and both handlers down to these two requests. -/
theorem remnant_blocks_add (now : Nat) (w : World) (tk : List Bytes) (c : SetCmd)
    (hl2 : w.l2.look now c.key = none) (it : Item) (hl1 : w.l1.look now (metaKey c.key) = some it) :
    ((L1L2.add (Chunked.handler .l1 now) (Std.handler .l2) c).eval now w tk).1 = .error (.app .keyExists) ∧
    ((L1L2.add (Chunked.handler .l1 now) (Std.handler .l2) c).eval now w tk).2.1 = [] ∧
    ((L1L2.add (Chunked.handler .l1 now) (Std.handler .l2) c).eval now w tk).2.2.1.l2 c.key =
      some ⟨c.data, c.flags, deadlineOf now c.exptime⟩ := by
  have e2 : Mc.exec now w.l2 (Std.storeReq .add c) =
      (w.l2.set c.key (some ⟨c.data, c.flags, deadlineOf now c.exptime⟩), .ok) :=
    exec_add_absent now w.l2 (Std.storeReq .add c) rfl hl2
  have hdec : decodeError stExists = some .keyExists := decode_fail .add nofun
  simp only [L1L2.add, andThen, Std.handler, Chunked.handler, Std.store, Chunked.store, setCommon,
    Prog.eval_bind, Prog.eval_req, Prog.eval_pure, Prog.eval_token, World.get, World.put, e2]
  rw [exec_add_present now w.l1 _ rfl it hl1]
  simp [hdec, Store.set]

/-- The single map on the same command (it holds the key no more than L2 does): stored and acknowledged,
    where `remnant_blocks_add` has "key exists". -/
theorem spec_add_absent (now : Nat) (s : Store) (c : SetCmd) (h : s.look now c.key = none) :
    Spec.step now s (.store .add c) = (s.set c.key (some ⟨c.data, c.flags, deadlineOf now c.exptime⟩), .ok) := by
  unfold Spec.step
  simp only
  rw [exec_add_absent now s _ rfl h]

end Rend
