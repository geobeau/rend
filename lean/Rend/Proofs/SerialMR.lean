/-
  The locking wrapper in MULTI-READER mode (memproxy's default): writers (every mutating command,
  get-and-touch) hold their key's stripe exclusively, single-key gets share it.  Gets of one key
  may interleave their L1 back-fills, so a schedule need not equal a sequential run of the
  implementation; the invariant `InvR` ties it to the single map instead, advanced in
  lock-acquisition order, with one clause per connection (`Finishes`).  The theorem: `linearizable_mr`.
-/
import Rend.Proofs.OrcaSeq
import Rend.Proofs.KeyLocal
import Rend.Proofs.ReaderGet

namespace Rend.Conc
open Rend

theorem specGets_single (now : Nat) (s : Store) (gk : GetKey) :
    specGets now s [gk] = [(gk, (s.look now gk.key).map fun it => (it.flags, it.data))] := rfl

theorem spec_step_eq_exec (now : Nat) (s : Store) (c : Cmd) (k : Bytes) (hk : cmdKey c = some k) :
    (Spec.step now s c).1 = s ∨ ∃ r : Req, r.key = k ∧ (Spec.step now s c).1 = (Mc.exec now s r).1 := by
  refine cmdKey_cases (motive := fun c => (Spec.step now s c).1 = s ∨
    ∃ r : Req, r.key = k ∧ (Spec.step now s c).1 = (Mc.exec now s r).1) hk ?_ ?_ ?_ ?_ ?_ ?_
  · exact fun kind sc h => .inr ⟨stdReq kind sc, h, by rw [spec_step_store, mc_exec_store]⟩
  · exact fun _ _ _ _ => .inl rfl
  · exact fun _ _ _ _ => .inl rfl
  · exact fun kc h => .inr ⟨{ op := .gat, key := kc.key, exptime := kc.exptime }, h, by rw [spec_step_gat, mc_exec_gat]⟩
  · exact fun kc h => .inr ⟨{ op := .delete, key := kc.key }, h, by rw [spec_step_delete, mc_exec_delete]⟩
  · exact fun kc h => .inr ⟨{ op := .touch, key := kc.key, exptime := kc.exptime }, h, by rw [spec_step_touch, mc_exec_touch]⟩

theorem spec_step_other (now : Nat) (s : Store) (c : Cmd) (k k' : Bytes) (hk : cmdKey c = some k) (hne : k' ≠ k) :
    (Spec.step now s c).1 k' = s k' := by
  rcases spec_step_eq_exec now s c k hk with e | ⟨r, hr, e⟩
  · rw [e]
  · rw [e]
    exact Mc.exec_other now s r (hr ▸ hne)

theorem writer_section (now : Nat) (p : Port) (c : Cmd) (k : Bytes) (hk : cmdKey c = some k) (htt : TwoTier c)
    (S : Store) (w : World) (hinv : CacheInvAt now w k) (hl2 : w.l2 k = S k) :
    Agrees c (Spec.step now S c).2 ((portStep p c).eval now w []).1 ((portStep p c).eval now w []).2.1 ∧
    CacheInvAt now ((portStep p c).eval now w []).2.2.1 k ∧
    ((portStep p c).eval now w []).2.2.1.l2 k = (Spec.step now S c).1 k := by
  -- The section cannot tell `w` from the world `v` whose L1 holds nothing but `w`'s entry of `k`
  -- and whose L2 is `S`; in `v` the cache invariant holds at every key, so the refinement of
  -- whole worlds applies.
  let v : World := { l1 := Store.empty.set k (w.l1 k), l2 := S }
  have hat : at' w k = at' v k := by simp only [at', v, Store.set_same, hl2]
  have hv : CacheInv now v :=
    .of_l1_single (cacheInvAt_congr now w v k hat hinv) fun x hx => Store.set_other _ k x _ hx
  obtain ⟨e1, e2, e3⟩ := eval_same now k (portStep_keyLocal p c k hk) w v hat
  obtain ⟨r1, r2, r3⟩ := portStep_refines now v [] p c htt hv
  have hcl : InClass now k ((Spec.step now S c).1 k) ((portStep p c).eval now w []).2.2.1 :=
    InClass.congr ⟨r2 k, congrFun r1 k⟩ e3.symm
  exact ⟨by rw [e1, e2]; exact r3, hcl.1, hcl.2⟩

/-- One command under the locking wrapper. -/
structure CThread where
  port : Port
  cmd : Cmd
  key : Bytes
  stripe : Nat
  read : Bool        -- takes the read lock (a get), else the write lock

/-- `reader`: the wrapper takes the read lock for single-key gets only (it runs a get as one locked
    single-key get per requested key). -/
structure WF (thr : Nat → CThread) : Prop where
  key : ∀ i, cmdKey (thr i).cmd = some (thr i).key
  twoTier : ∀ i, TwoTier (thr i).cmd
  reader : ∀ i, (thr i).read = true → ∃ g gk, (thr i).cmd = .get g ∧ g.keys = [gk]
  stripe : ∀ i j, (thr i).key = (thr j).key → (thr i).stripe = (thr j).stripe

/-- One scheduling step under shared read locks: `StepWith` for `sharedAdm`, written out
    (`stepR_iff`); a section is its port's orchestrator program for its command. -/
inductive StepR (now : Nat) (thr : Nat → CThread) : Conf (HRes Unit) → Step → Conf (HRes Unit) → Prop where
  | acq (c : Conf (HRes Unit)) (i : Nat) : c.ts i = .idle →
      (∀ j p evs, c.ts j = .running p evs → (thr j).stripe = (thr i).stripe → (thr j).read = true ∧ (thr i).read = true) →
      StepR now thr c (.acq i) (c.set i (.running (portStep (thr i).port (thr i).cmd) []))
  | call (c : Conf (HRes Unit)) (i : Nat) (t : Tier) (r : Req) (k : Resp → Prog OEv (HRes Unit)) (evs : List OEv) :
      c.ts i = .running (.call t r k) evs →
      StepR now thr c (.act i)
        (Conf.set { w := c.w.put t (Mc.exec now (c.w.get t) r).1, ts := c.ts } i
          (.running (k (Mc.exec now (c.w.get t) r).2) evs))
  | emit (c : Conf (HRes Unit)) (i : Nat) (e : OEv) (p : Prog OEv (HRes Unit)) (evs : List OEv) :
      c.ts i = .running (.emit e p) evs → StepR now thr c (.act i) (c.set i (.running p (evs ++ [e])))
  | draw (c : Conf (HRes Unit)) (i : Nat) (k : Bytes → Prog OEv (HRes Unit)) (evs : List OEv) :
      c.ts i = .running (.draw k) evs → StepR now thr c (.act i) (c.set i (.running (k (Bytes.zeros 16)) evs))
  | rel (c : Conf (HRes Unit)) (i : Nat) (a : HRes Unit) (evs : List OEv) :
      c.ts i = .running (.ret a) evs → StepR now thr c (.rel i) (c.set i (.done a evs))

/-- `ExecWith`, written out (`execR_iff`). -/
inductive ExecR (now : Nat) (thr : Nat → CThread) : Conf (HRes Unit) → List Step → Conf (HRes Unit) → Prop where
  | nil (c : Conf (HRes Unit)) : ExecR now thr c [] c
  | cons (c c' c'' : Conf (HRes Unit)) (s : Step) (rest : List Step) : StepR now thr c s c' → ExecR now thr c' rest c'' →
      ExecR now thr c (s :: rest) c''

theorem stepR_iff {now : Nat} {thr : Nat → CThread} {c c' : Conf (HRes Unit)} {s : Step} :
    StepR now thr c s c' ↔ StepWith now (fun i => portStep (thr i).port (thr i).cmd)
      (sharedAdm (fun i => (thr i).stripe) fun i => (thr i).read) c s c' :=
  ⟨fun h => by cases h <;> constructor <;> assumption, fun h => by cases h <;> constructor <;> assumption⟩

theorem execR_iff {now : Nat} {thr : Nat → CThread} {c c' : Conf (HRes Unit)} {sched : List Step} :
    ExecR now thr c sched c' ↔ ExecWith now (fun i => portStep (thr i).port (thr i).cmd)
      (sharedAdm (fun i => (thr i).stripe) fun i => (thr i).read) c sched c' := by
  constructor
  · intro h
    induction h with
    | nil c => exact .nil c
    | cons c d e s rest hs _ ih => exact .cons c d e s rest (stepR_iff.mp hs) ih
  · intro h
    induction h with
    | nil c => exact .nil c
    | cons c d e s rest hs _ ih => exact .cons c d e s rest (stepR_iff.mpr hs) ih

/-- The program `p` that a connection on key `k` with command `cmd` has left to run, having emitted
    `evs`, ends with the answer `o` while the single map holds `b` under `k`.  A writer (`false`)
    is alone on its key: its run from the present world `w` ends with `o` and the key in the class
    of `b`.  A reader (`true`) is not, other readers may move L1 within the class between its
    requests: it ends with `o` whatever state of the class each of its requests finds. -/
def Finishes (now : Nat) (k : Bytes) (cmd : Cmd) (b : Option Item) (o : SOut) (w : World) (p : Prog OEv (HRes Unit))
    (evs : List OEv) : Bool → Prop
  | true => Stable now k b (fun x => Agrees cmd o x.1 (evs ++ x.2)) p
  | false => Agrees cmd o (p.eval now w []).1 (evs ++ (p.eval now w []).2.1) ∧ InClass now k b (p.eval now w []).2.2.1

namespace Finishes
variable {now : Nat} {k : Bytes} {cmd : Cmd} {b : Option Item} {o : SOut} {w : World} {evs : List OEv} {rd : Bool}

theorem call {t : Tier} {r : Req} {K : Resp → Prog OEv (HRes Unit)} (h : Finishes now k cmd b o w (.call t r K) evs rd)
    (hw : rd = true → InClass now k b w) :
    Finishes now k cmd b o (w.put t (Mc.exec now (w.get t) r).1) (K (Mc.exec now (w.get t) r).2) evs rd ∧
    (rd = true → InClass now k b (w.put t (Mc.exec now (w.get t) r).1)) := by
  cases rd with
  | false => exact ⟨h, nofun⟩
  | true =>
    cases h with
    | call _ _ _ _ hc hs => exact ⟨hs w (hw rfl), fun _ => hc w (hw rfl)⟩

theorem emit {e : OEv} {p : Prog OEv (HRes Unit)} (h : Finishes now k cmd b o w (.emit e p) evs rd) :
    Finishes now k cmd b o w p (evs ++ [e]) rd := by
  cases rd with
  | false =>
    show Agrees cmd o _ (evs ++ [e] ++ _) ∧ _
    rw [List.append_assoc]
    exact h
  | true =>
    cases h with
    | emit _ _ _ hs => exact hs.mono fun x hx => by rw [List.append_assoc]; exact hx

theorem draw {K : Bytes → Prog OEv (HRes Unit)} (h : Finishes now k cmd b o w (.draw K) evs rd) :
    Finishes now k cmd b o w (K (Bytes.zeros 16)) evs rd := by
  cases rd with
  | false => exact h
  | true =>
    cases h with
    | draw _ _ hs => exact hs

theorem ret {a : HRes Unit} (h : Finishes now k cmd b o w (.ret a) evs rd) (hw : rd = true → InClass now k b w) :
    Agrees cmd o a evs ∧ InClass now k b w := by
  cases rd with
  | false => exact ⟨List.append_nil evs ▸ h.1, h.2⟩
  | true =>
    cases h with
    | ret _ _ hq => exact ⟨List.append_nil evs ▸ hq, hw rfl⟩

theorem frame {p : Prog OEv (HRes Unit)} {w' : World} (h : Finishes now k cmd b o w p evs rd)
    (hloc : AllReqs (KeyLocal k) p) (hw : rd = false → at' w' k = at' w k) : Finishes now k cmd b o w' p evs rd := by
  cases rd with
  | true => exact h
  | false =>
    obtain ⟨e1, e2, e3⟩ := eval_same now k hloc w' w (hw rfl)
    exact ⟨by rw [e1, e2]; exact h.1, h.2.congr e3.symm⟩

end Finishes

theorem qget_agrees (now : Nat) (S : Store) (g : GetCmd) (gk : GetKey) (hg : g.keys = [gk]) (x : HRes Unit × List OEv)
    (h : QGet now g gk (S gk.key) x) : Agrees (.get g) (Spec.step now S (.get g)).2 x.1 x.2 := by
  obtain ⟨h1, r, h2, h3⟩ := h
  simp only [Spec.step, hg, specGets_single, Agrees]
  refine ⟨h1, [r], by rw [h2]; rfl, ?_⟩
  simp only [List.map_cons, List.map_nil, specViewOf]
  rw [h3, lookB_spec]

theorem Finishes.enter {thr : Nat → CThread} (wf : WF thr) (now : Nat) (i : Nat) (S : Store) (w : World)
    (hcl : InClass now (thr i).key (S (thr i).key) w) :
    Finishes now (thr i).key (thr i).cmd ((Spec.step now S (thr i).cmd).1 (thr i).key) (Spec.step now S (thr i).cmd).2 w
      (portStep (thr i).port (thr i).cmd) [] (thr i).read := by
  cases hr : (thr i).read with
  | false => exact writer_section now _ _ _ (wf.key i) (wf.twoTier i) S w hcl.1 hcl.2
  | true =>
    obtain ⟨g, gk, hcmd, hg⟩ := wf.reader i hr
    have hgk : gk.key = (thr i).key := by
      have := wf.key i
      rw [hcmd] at this
      simpa [cmdKey, hg] using this
    rw [hcmd, ← hgk]
    have hst : Stable now gk.key (S gk.key) (QGet now g gk (S gk.key)) (portStep (thr i).port (.get g)) := by
      cases (thr i).port
      · exact L1L2_get_stable now g gk hg (S gk.key)
      · exact L1L2Batch_get_stable now g gk hg (S gk.key)
    exact hst.mono fun x hx => qget_agrees now S g gk hg x hx

/-- The single map, advanced in lock-acquisition order, and what it answered to each command that
    has taken its lock. -/
structure SRef where
  s : Store
  out : Nat → SOut

def SRef.runOne (now : Nat) (thr : Nat → CThread) (r : SRef) (i : Nat) : SRef :=
  { s := (Spec.step now r.s (thr i).cmd).1,
    out := fun j => if j = i then (Spec.step now r.s (thr i).cmd).2 else r.out j }

def SRef.extend (now : Nat) (thr : Nat → CThread) (r : SRef) : Step → SRef
  | .acq i => r.runOne now thr i
  | _ => r

/-- Ties a configuration to the single map `r.s`, advanced by the commands that have their locks,
    and to its answers `r.out`.  A command inside its section sends requests on its key only and
    `Finishes` with the map's answer; a finished one has returned and emitted it; a key with no
    writer inside is in the class of the map's entry (`InClass`: the cache invariant holds at it
    and L2 holds that entry); two connections inside on one key are both readers. -/
structure InvR (now : Nat) (thr : Nat → CThread) (c : Conf (HRes Unit)) (r : SRef) : Prop where
  inside : ∀ i p evs, c.ts i = .running p evs → AllReqs (KeyLocal (thr i).key) p ∧
    Finishes now (thr i).key (thr i).cmd (r.s (thr i).key) (r.out i) c.w p evs (thr i).read
  done : ∀ i a evs, c.ts i = .done a evs → Agrees (thr i).cmd (r.out i) a evs
  quiet : ∀ k, (∀ j p evs, c.ts j = .running p evs → (thr j).key = k → (thr j).read = true) →
    InClass now k (r.s k) c.w
  excl : ∀ i j p evs q evs', i ≠ j → c.ts i = .running p evs → c.ts j = .running q evs' →
    (thr i).key = (thr j).key → (thr i).read = true ∧ (thr j).read = true

section
variable {now : Nat} {thr : Nat → CThread} {c : Conf (HRes Unit)} {r : SRef} {i : Nat} {p : Prog OEv (HRes Unit)}
  {evs : List OEv}

theorem InvR.reader_class (hinv : InvR now thr c r) (hi : c.ts i = .running p evs) (hr : (thr i).read = true) :
    InClass now (thr i).key (r.s (thr i).key) c.w :=
  hinv.quiet _ fun j q qevs hj hk => by
    by_cases hji : j = i
    · exact hji ▸ hr
    · exact (hinv.excl j i q qevs p evs hji hj hi hk).1

/-- All five kinds of step in one: connection `i` moves to `st`, the world to `w'` (under the key
    of `i` only), the single map with its answers to `r'` (under that key, if `i` is a writer).  The others
    do not notice: a writer among them is on another key (`Finishes.frame`), and what is said of a
    reader mentions no world. -/
theorem InvR.set (hinv : InvR now thr c r) (i : Nat) {w' : World} {st : TState (HRes Unit)} {r' : SRef}
    (hfree : ∀ j q qevs, j ≠ i → c.ts j = .running q qevs → (thr j).key = (thr i).key →
      (thr j).read = true ∧ (thr i).read = true)
    (hw : ∀ k, k ≠ (thr i).key → at' w' k = at' c.w k)
    (hs : ∀ k, (k = (thr i).key → (thr i).read = true) → r'.s k = r.s k)
    (hout : ∀ j, j ≠ i → r'.out j = r.out j)
    (hst : match st with
      | .idle => False
      | .running p evs => AllReqs (KeyLocal (thr i).key) p ∧
          Finishes now (thr i).key (thr i).cmd (r'.s (thr i).key) (r'.out i) w' p evs (thr i).read ∧
          ((thr i).read = true → InClass now (thr i).key (r'.s (thr i).key) w')
      | .done a evs => Agrees (thr i).cmd (r'.out i) a evs ∧ InClass now (thr i).key (r'.s (thr i).key) w') :
    InvR now thr (Conf.set { w := w', ts := c.ts } i st) r' := by
  constructor
  · intro j q qevs hj
    rcases set_cases hj with ⟨rfl, rfl⟩ | ⟨hji, hj⟩
    · exact ⟨hst.1, hst.2.1⟩
    · obtain ⟨a, h⟩ := hinv.inside j q qevs hj
      have hfree := hfree j q qevs hji hj
      rw [hout j hji, hs _ fun hk => (hfree hk).2]
      exact ⟨a, h.frame a fun hrj => hw _ fun hk => absurd (hrj.symm.trans (hfree hk).1) Bool.false_ne_true⟩
  · intro j a aevs hj
    rcases set_cases hj with ⟨rfl, rfl⟩ | ⟨hji, hj⟩
    · exact hst.1
    · rw [hout j hji]
      exact hinv.done j a aevs hj
  · intro k hk
    show InClass now k (r'.s k) w'
    by_cases hki : k = (thr i).key
    · subst hki
      cases st with
      | idle => exact hst.elim
      | running p evs => exact hst.2.2 (hk i p evs (set_self _ _ _) rfl)
      | done a evs => exact hst.2
    · rw [hs k fun e => absurd e hki]
      refine (hinv.quiet k fun j q qevs hj hjk => ?_).congr (hw k hki).symm
      by_cases hji : j = i
      · exact absurd (hji ▸ hjk).symm hki
      · exact hk j q qevs ((set_other _ _ _ _ hji).trans hj) hjk
  · exact set_excl (R := fun a b => (thr a).key = (thr b).key → (thr a).read = true ∧ (thr b).read = true)
      (fun _ _ h e => (h e.symm).symm) st hinv.excl hfree

theorem invR_step (wf : WF thr) {c' : Conf (HRes Unit)} {s : Step} (hstep : StepR now thr c s c') (hinv : InvR now thr c r) :
    InvR now thr c' (r.extend now thr s) := by
  have sole : ∀ {i p evs}, c.ts i = .running p evs → ∀ j q qevs, j ≠ i → c.ts j = .running q qevs →
      (thr j).key = (thr i).key → (thr j).read = true ∧ (thr i).read = true :=
    fun hi j q qevs hji hj hk => hinv.excl j _ q qevs _ _ hji hj hi hk
  cases hstep with
  | acq i hidle hadm =>
    have hsame : ∀ j q qevs, c.ts j = .running q qevs → (thr j).key = (thr i).key →
        (thr j).read = true ∧ (thr i).read = true :=
      fun j q qevs hj hk => hadm j q qevs hj (wf.stripe j i hk)
    have hcl : InClass now (thr i).key (r.s (thr i).key) c.w :=
      hinv.quiet _ fun j q qevs hj hk => (hsame j q qevs hj hk).1
    -- the single map moves under the key of `i` only, and not at all if `i` is a reader
    have hs : ∀ k, (k = (thr i).key → (thr i).read = true) → (Spec.step now r.s (thr i).cmd).1 k = r.s k := by
      intro k hk
      by_cases hki : k = (thr i).key
      · obtain ⟨g, _, hcmd, _⟩ := wf.reader i (hk hki)
        rw [hcmd]
        rfl
      · exact spec_step_other now r.s _ _ k (wf.key i) hki
    show InvR now thr _ (r.runOne now thr i)
    refine hinv.set i (hfree := fun j q qevs _ => hsame j q qevs) (hw := fun _ _ => rfl) (hs := hs)
      (hout := fun j hji => if_neg hji) (hst := ⟨portStep_keyLocal _ _ _ (wf.key i), ?_, fun hr => ?_⟩)
    · simp only [SRef.runOne, if_true]
      exact Finishes.enter wf now i r.s c.w hcl
    · show InClass now _ ((Spec.step now r.s (thr i).cmd).1 _) c.w
      rw [hs _ fun _ => hr]
      exact hcl
  | call i t rq K evs hi =>
    obtain ⟨hloc, hfin⟩ := hinv.inside i _ evs hi
    cases hloc with
    | call _ _ _ hreq hk =>
      exact hinv.set i (hfree := sole hi) (hw := fun k' hk' => put_other now c.w t rq (thr i).key k' hreq hk')
        (hs := fun _ _ => rfl) (hout := fun _ _ => rfl) (hst := ⟨hk _, hfin.call (hinv.reader_class hi)⟩)
  | emit i e p evs hi =>
    obtain ⟨hloc, hfin⟩ := hinv.inside i _ evs hi
    cases hloc with
    | emit _ _ hp =>
      exact hinv.set i (hfree := sole hi) (hw := fun _ _ => rfl) (hs := fun _ _ => rfl) (hout := fun _ _ => rfl)
        (hst := ⟨hp, hfin.emit, hinv.reader_class hi⟩)
  | draw i K evs hi =>
    obtain ⟨hloc, hfin⟩ := hinv.inside i _ evs hi
    cases hloc with
    | draw _ hk =>
      exact hinv.set i (hfree := sole hi) (hw := fun _ _ => rfl) (hs := fun _ _ => rfl) (hout := fun _ _ => rfl)
        (hst := ⟨hk _ zeros_len, hfin.draw, hinv.reader_class hi⟩)
  | rel i a evs hi =>
    show InvR now thr _ r
    exact hinv.set i (hfree := sole hi) (hw := fun _ _ => rfl) (hs := fun _ _ => rfl) (hout := fun _ _ => rfl)
      (hst := (hinv.inside i _ evs hi).2.ret (hinv.reader_class hi))

end

/-- `.other` is arbitrary: `out i` is not read before connection `i` has its lock, and
    `SRef.runOne` sets it then. -/
theorem invR_init (now : Nat) (thr : Nat → CThread) (w : World) (h : CacheInv now w) :
    InvR now thr (Conf.init w) { s := w.l2, out := fun _ => .other } where
  inside _ _ _ hh := nomatch hh
  done _ _ _ hh := nomatch hh
  quiet k _ := ⟨h k, rfl⟩
  excl _ _ _ _ _ _ _ hh := nomatch hh

def actsOfR (thr : Nat → CThread) (order : List Nat) : List Act :=
  order.map (fun i => Act.cmd (thr i).port (thr i).cmd)

def specRun (now : Nat) (thr : Nat → CThread) (r : SRef) (order : List Nat) : SRef :=
  order.foldl (SRef.runOne now thr) r

theorem ExecR.invR {now : Nat} {thr : Nat → CThread} (wf : WF thr) {c c' : Conf (HRes Unit)} {sched : List Step}
    (hex : ExecR now thr c sched c') {r : SRef} (hinv : InvR now thr c r) :
    InvR now thr c' (specRun now thr r (acqOrder sched)) := by
  rw [specRun, ← foldl_acqOrder (SRef.extend now thr) (SRef.runOne now thr) (fun _ _ => rfl) (fun _ _ => rfl) fun _ _ => rfl]
  induction hex generalizing r with
  | nil c => exact hinv
  | cons c c1 c2 s rest hs _ ih => exact ih (invR_step wf hs hinv)

theorem specRun_out (now : Nat) (thr : Nat → CThread) : ∀ (order : List Nat) (r : SRef) (j : Nat),
    j ∉ order → (specRun now thr r order).out j = r.out j
  | [], _, _, _ => rfl
  | i :: rest, r, j, hj =>
    (specRun_out now thr rest (r.runOne now thr i) j fun h => hj (List.mem_cons_of_mem _ h)).trans
      (if_neg fun (e : j = i) => hj (e ▸ List.mem_cons_self ..))

theorem specRun_end_acts (now : Nat) (thr : Nat → CThread) : ∀ (order : List Nat) (r : SRef), order.Nodup →
    (specRun now thr r order).s = specEnd now r.s (actsOfR thr order) ∧
    specActs now r.s (actsOfR thr order) = order.map fun i => ((thr i).cmd, (specRun now thr r order).out i)
  | [], _, _ => ⟨rfl, rfl⟩
  | i :: rest, r, hnd => by
    obtain ⟨hi, hrest⟩ := List.nodup_cons.mp hnd
    obtain ⟨a, b⟩ := specRun_end_acts now thr rest (r.runOne now thr i) hrest
    refine ⟨a, ?_⟩
    show _ = ((thr i).cmd, (specRun now thr (r.runOne now thr i) rest).out i) ::
      rest.map fun j => ((thr j).cmd, (specRun now thr (r.runOne now thr i) rest).out j)
    rw [specRun_out now thr rest _ i hi, ← b]
    simp only [SRef.runOne, if_true, actsOfR, List.map_cons, specActs]

/-- `C03_linearizable_shared_reads` (Props/C03.lean, where the claim is spelled out) over `CThread`s. -/
theorem linearizable_mr (now : Nat) (thr : Nat → CThread) (wf : WF thr) (w : World) (hinv : CacheInv now w)
    (sched : List Step) (c' : Conf (HRes Unit)) (hex : ExecR now thr (Conf.init w) sched c')
    (hquiet : ∀ i p evs, c'.ts i ≠ .running p evs) :
    ∃ obs : List (HRes Unit × List OEv),
      (acqOrder sched).map c'.ts = obs.map (fun o => TState.done o.1 o.2) ∧
      AllAgree obs (specActs now w.l2 (actsOfR thr (acqOrder sched))) ∧
      c'.w.l2 = specEnd now w.l2 (actsOfR thr (acqOrder sched)) ∧
      CacheInv now c'.w := by
  have h := hex.invR wf (invR_init now thr w hinv)
  have nd := (execR_iff.mp hex).acqOrder_nodup.1
  obtain ⟨e1, e2⟩ := specRun_end_acts now thr (acqOrder sched) { s := w.l2, out := fun _ => .other } nd
  have hq := fun k => h.quiet k fun j p evs hj => absurd hj (hquiet j p evs)
  -- what `i` returned and emitted; the second arm is never met on the order (`done_of_quiet`)
  let f : Nat → HRes Unit × List OEv := fun i =>
    match c'.ts i with
    | .done a evs => (a, evs)
    | _ => (.ok (), [])
  have hdone : ∀ i ∈ acqOrder sched,
      c'.ts i = .done (f i).1 (f i).2 ∧
      Agrees (thr i).cmd ((specRun now thr { s := w.l2, out := fun _ => .other } (acqOrder sched)).out i) (f i).1 (f i).2 := by
    intro i hi
    obtain ⟨a, evs, hc⟩ := (execR_iff.mp hex).done_of_quiet hquiet hi
    have hf : f i = (a, evs) := by simp only [f, hc]
    rw [hf]
    exact ⟨hc, h.done i a evs hc⟩
  refine ⟨(acqOrder sched).map f, ?_, ?_, ?_, fun k => (hq k).1⟩
  · rw [List.map_map]
    exact List.map_congr_left fun i hi => (hdone i hi).1
  · rw [e2]
    exact AllAgree.map f _ _ fun i hi => (hdone i hi).2
  · rw [← e1]
    exact funext fun k => (hq k).2

end Rend.Conc
