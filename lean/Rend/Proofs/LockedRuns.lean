/-
  The locking wrapper `Locked.step` (orcas/locked.go), whatever it wraps and whatever that does.
  A command with one key runs as one wrapped call under that key's lock (`Locked.step_keyed`), a get
  as one wrapped one-key get per key, each under its key's lock, with the terminators of all but the
  last held back (`Locked.step_get`); any other command goes to the wrapped orchestrator as it is.
  The lock / unlock / recover shape of a method is its entry in `Gen.lockedFacts`; the lemmas take
  what they need of the entry as a hypothesis, `lockedFacts_table` checks the regenerated table for
  it.  With those facts every method has one normal form, `lockedThen`: acquire, the wrapped call,
  release unless it crashed, a continuation (`lockedSingle_eq`; one round of the get loop:
  `lockedGetLoop_cons_eq`), and `lockedThen_always` says what that does for every behaviour of the
  wrapped call.  The second half is the reply discipline of C08 under the wrapper: a keyed call
  passes the wrapped call's responder calls on unchanged (`lockedSingle_resps`); the per-key loop of
  a get, the terminators of all rounds but the last held back, satisfies `Disc` for the whole get if
  the wrapped orchestrator does for every one-key get (`lockedGetLoop_disc`).
-/
import Rend.Orcas.Locked
import Rend.Proofs.Replies

namespace Rend

/-- The key of a command that the locking wrapper runs as one call under one lock.  `cmdKey` (OrcaFoot.lean) also
    gives the key of a get of one key, which the wrapper runs through its per-key loop. -/
def Cmd.lockKey : Cmd → Option Bytes
  | .store _ s => some s.key
  | .delete k => some k.key
  | .touch k => some k.key
  | .gat k => some k.key
  | _ => none

theorem Locked.step_keyed (bits : Nat) (wrapped : Cmd → OProg (HRes Unit)) {c : Cmd} {key : Bytes}
    (h : c.lockKey = some key) :
    ∃ n ∈ ["Set", "Add", "Replace", "Append", "Prepend", "Delete", "Touch", "Gat"],
      Locked.step bits wrapped c = lockedSingle (lockedFact n) bits key (wrapped c) := by
  cases c with
  | store k s =>
    cases h
    cases k <;> exact ⟨_, by simp, rfl⟩
  | delete k | touch k | gat k =>
    cases h
    exact ⟨_, by simp, rfl⟩
  | _ => cases h

theorem Locked.step_get (bits : Nat) (wrapped : Cmd → OProg (HRes Unit)) (g : GetCmd) :
    Locked.step bits wrapped (.get g) = lockedGetLoop (lockedFact "Get") bits (fun sub => wrapped (.get sub)) g g.keys :=
  rfl

theorem Locked.step_unkeyed (bits : Nat) (wrapped : Cmd → OProg (HRes Unit)) {c : Cmd} (h : c.lockKey = none) :
    (∃ g, c = .get g) ∨ (∃ g, c = .getE g) ∨ Locked.step bits wrapped c = wrapped c := by
  cases c with
  | get g => exact .inl ⟨g, rfl⟩
  | getE g => exact .inr (.inl ⟨g, rfl⟩)
  | store _ _ | delete _ | touch _ | gat _ => cases h
  | _ => exact .inr (.inr rfl)

/-- The regenerated table, checked once: every keyed method takes its lock, releases it by `defer`
    and lets a panic through; `Get` / `GetE` take a lock per key, release it inline and in the
    recover, re-panic, and hold the end-of-get marker back for all but the last key. -/
theorem lockedFacts_table :
    (∀ n ∈ ["Set", "Add", "Replace", "Append", "Prepend", "Delete", "Touch", "Gat"],
      (lockedFact n).usesLock = true ∧ (lockedFact n).deferUnlock = true ∧ (lockedFact n).recovers = false) ∧
    (∀ n ∈ ["Get", "GetE"],
      (lockedFact n).usesLock = true ∧ (lockedFact n).inlineUnlock = true ∧ (lockedFact n).recovers = true ∧
      (lockedFact n).recoverUnlocks = true ∧ (lockedFact n).repanics = true ∧ (lockedFact n).gatesGetEnd = true) := by
  decide

/-- What every method of the wrapper comes to once its regenerated facts are put in: the call `p`
    between the lock events of stripe `s`, no release when `p` crashed, then `k` on its result. -/
def lockedThen (s : Nat) (rd : Bool) (p : OProg (HRes Unit)) (k : HRes Unit → OProg (HRes Unit)) : OProg (HRes Unit) := do
  Prog.out (.acquire s rd)
  let r ← p
  if isCrash r then pure r
  else do
    Prog.out (.release s rd)
    k r

/-- `recovers = false` is what passes a panic of `p` on as it is, the deferred unlock what releases
    the lock then too. -/
theorem lockedSingle_eq (f : Gen.LockedFact) (hf : f.usesLock = true ∧ f.deferUnlock = true ∧ f.recovers = false)
    (bits : Nat) (key : Bytes) (p : OProg (HRes Unit)) :
    lockedSingle f bits key p = lockedThen (stripeOf bits key) f.readLock p pure := by
  obtain ⟨h1, h2, h3⟩ := hf
  unfold lockedSingle lockedThen
  simp only [h1, h2, h3, Bool.not_true, Bool.false_eq_true, if_false, Bool.true_or, if_true, Bool.false_and, ite_self]

/-- One round of the per-key loop of `LockedOrca.Get`: the one-key get of `k` under the lock of
    `k`, its end-of-get marker held back unless `k` is the last key, then the next round or the
    first result that is not success. -/
theorem lockedGetLoop_cons_eq (f : Gen.LockedFact)
    (hf : f.usesLock = true ∧ f.inlineUnlock = true ∧ f.recovers = true ∧ f.recoverUnlocks = true ∧
      f.repanics = true ∧ f.gatesGetEnd = true)
    (bits : Nat) (sub : GetCmd → OProg (HRes Unit)) (g : GetCmd) (k : GetKey) (rest : List GetKey) :
    lockedGetLoop f bits sub g (k :: rest) =
      lockedThen (stripeOf bits k.key) f.readLock
        (if !rest.isEmpty then Prog.filterEmit (fun e => !isGetEndEv e)
            (sub { keys := [k], noopOpaque := if rest.isEmpty then g.noopOpaque else 0,
                   noopEnd := if rest.isEmpty then g.noopEnd else false })
          else sub { keys := [k], noopOpaque := if rest.isEmpty then g.noopOpaque else 0,
                     noopEnd := if rest.isEmpty then g.noopEnd else false })
        fun r => match r with
          | .ok () => lockedGetLoop f bits sub g rest
          | e => pure e := by
  obtain ⟨f1, f2, f3, f4, f5, f6⟩ := hf
  rw [lockedGetLoop]
  unfold lockedThen
  simp only [f1, f2, f3, f4, f5, f6, if_true, Bool.true_and, Bool.not_true, Bool.and_false, Bool.false_eq_true,
    if_false, Bool.or_true]
  -- the `do` block `let r ← if … then filterEmit … else sub …; rest` elaborates to an `if` with `rest`
  -- bound after each branch: fold the two copies back under one bind
  rw [← apply_ite (· >>= _)]
  refine congrArg (_ >>= ·) (funext fun _ => congrArg (_ >>= ·) (funext fun r => ?_))
  -- the recover releases the lock and re-panics: a panic goes the way of any other error
  cases r with
  | ok u => rfl
  | error e => cases e <;> rfl

theorem lockedThen_always {s : Nat} {rd : Bool} {p : OProg (HRes Unit)} {k : HRes Unit → OProg (HRes Unit)}
    {Q : HRes Unit → List OEv → Prop}
    (h : ∀ r e3, Runs p r e3 →
      (isCrash r = true → Q r (.acquire s rd :: e3)) ∧
      (isCrash r = false → (k r).Always fun res es => Q res (.acquire s rd :: (e3 ++ .release s rd :: es)))) :
    (lockedThen s rd p k).Always Q := by
  refine .outThen (.bind (R := Runs p) (fun _ _ hr => hr) fun r e3 hr => ?_)
  obtain ⟨hcrash, hrel⟩ := h r e3 hr
  split
  · rename_i hc
    exact .pure (by simpa using hcrash hc)
  · rename_i hnc
    exact .outThen (hrel (by simpa using hnc))

/-- The wrapped call of a round of the get loop (`lockedGetLoop_cons_eq`); `last`: this is the last key. -/
theorem Runs.gate_inv {last : Bool} {p : OProg (HRes Unit)} {r : HRes Unit} {es : List OEv}
    (h : Runs (if !last then Prog.filterEmit (fun e => !isGetEndEv e) p else p) r es) :
    ∃ e3, Runs p r e3 ∧ es = e3.filter fun e => last || !isGetEndEv e := by
  cases last with
  | true => exact ⟨es, h, (List.filter_eq_self.mpr fun _ _ => rfl).symm⟩
  | false => exact Runs.filterEmit_inv h

end Rend

-- What the wrapper does to the responder calls `resps` and the discipline `Disc`: notions of Props/C08, under its names.
namespace Rend.Props.C08
open Rend

theorem lockedSingle_resps (f : Gen.LockedFact) (hf : f.usesLock = true ∧ f.deferUnlock = true ∧ f.recovers = false)
    (bits : Nat) (key : Bytes) (p : OProg (HRes Unit)) :
    (lockedSingle f bits key p).Always fun res es => ∃ es', Runs p res es' ∧ resps es = resps es' :=
  lockedSingle_eq f hf bits key p ▸ lockedThen_always fun r e3 hr =>
    ⟨fun _ => ⟨e3, hr, rfl⟩, fun _ => .pure ⟨e3, hr, by rw [resps_acquire, resps_append]; exact List.append_nil _⟩⟩

def isGetEnd : REv → Bool
  | .getEnd _ _ => true
  | _ => false

theorem isGetEndEv_resp (r : REv) : isGetEndEv (.resp r) = isGetEnd r := by cases r <;> rfl

theorem resps_filter (es : List OEv) :
    resps (es.filter (fun e => !isGetEndEv e)) = (resps es).filter (fun r => !isGetEnd r) := by
  induction es with
  | nil => rfl
  | cons e es ih =>
    rw [List.filter_cons]
    cases e with
    | resp r =>
      rw [isGetEndEv_resp]
      cases hr : isGetEnd r
      · simp only [Bool.not_false, if_true, resps, List.filter_cons, hr, ih]
      · simp only [Bool.not_true, Bool.false_eq_true, if_false, resps, List.filter_cons, hr, ih]
    | acquire s r => simpa [isGetEndEv, resps] using ih
    | release s r => simpa [isGetEndEv, resps] using ih

theorem filter_gets (gs : List REv) (h : ∀ e ∈ gs, isGet e = true) : gs.filter (fun r => !isGetEnd r) = gs := by
  rw [List.filter_eq_self]
  intro e he
  cases e with
  | getEnd o n => exact absurd (h _ he) Bool.false_ne_true
  | _ => rfl

theorem resps_gated (rest : List GetKey) (e3 : List OEv) (gs tail : List REv) (hgs : ∀ e ∈ gs, isGet e = true)
    (htail : ∀ e ∈ tail, isGetEnd e = true) (h : resps e3 = gs ++ tail) :
    resps (e3.filter fun e => rest.isEmpty || !isGetEndEv e) = gs ++ if rest.isEmpty then tail else [] := by
  cases hl : rest.isEmpty with
  | true =>
    rw [List.filter_eq_self.mpr fun _ _ => Bool.true_or _, h]
    rfl
  | false =>
    simp only [Bool.false_or, Bool.false_eq_true, if_false, List.append_nil]
    rw [resps_filter, h, List.filter_append, filter_gets gs hgs, List.filter_eq_nil_iff.mpr fun e he => by simp [htail e he]]
    exact List.append_nil _

theorem lockedGetLoop_disc (f : Gen.LockedFact)
    (hf : f.usesLock = true ∧ f.inlineUnlock = true ∧ f.recovers = true ∧ f.recoverUnlocks = true ∧
      f.repanics = true ∧ f.gatesGetEnd = true)
    (bits : Nat) (sub : GetCmd → OProg (HRes Unit)) (hsub : ∀ g', Shape (Disc (.get g')) (sub g')) (g : GetCmd) :
    ∀ ks : List GetKey, ks ≠ [] → (lockedGetLoop f bits sub g ks).Always fun res es => Disc (.get g) res (resps es)
  | [], h => absurd rfl h
  | k :: rest, _ => by
    rw [lockedGetLoop_cons_eq f hf]
    refine lockedThen_always fun r es hr => ?_
    obtain ⟨e3, hs, rfl⟩ := Runs.gate_inv hr
    obtain ⟨gs, hgs, hd⟩ := (hsub _).out r e3 hs
    -- without success the wrapped call made no terminator call
    have hfail : r ≠ .ok () → ∀ post : List OEv, resps post = [] →
        Disc (.get g) r (resps (.acquire (stripeOf bits k.key) f.readLock ::
          (e3.filter (fun e => rest.isEmpty || !isGetEndEv e) ++ post))) := by
      intro hne post hpost
      rcases hd with ⟨h1, _⟩ | ⟨_, h2⟩
      · exact absurd h1 hne
      · have := resps_gated rest e3 gs [] hgs (fun _ h => nomatch h) (by rw [h2, List.append_nil])
        rw [resps_acquire, resps_append, this, hpost]
        exact ⟨gs, hgs, .inr ⟨hne, by simp⟩⟩
    refine ⟨fun hc => ?_, fun _ => ?_⟩
    · simpa using hfail (by intro h; subst h; simp [isCrash] at hc) [] rfl
    · cases r with
      | error e => exact .pure (hfail nofun _ rfl)
      | ok u =>
        rcases hd with ⟨_, h2⟩ | ⟨h1, _⟩
        · have hgate := resps_gated rest e3 gs _ hgs (by simp [isGetEnd]) h2
          cases rest with
          | nil =>
            refine .pure ?_
            rw [resps_acquire, resps_append, hgate]
            exact ⟨gs, hgs, .inl ⟨rfl, by simp [resps]⟩⟩
          | cons k' rest' =>
            refine (lockedGetLoop_disc f hf bits sub hsub g (k' :: rest') nofun).mono fun res es hd' => ?_
            rw [resps_acquire, resps_append, hgate, resps_release]
            simpa using disc_get_prepend g res gs _ hgs hd'
        · exact absurd rfl h1

end Rend.Props.C08
