/-
  Gets under a SHARED read lock (multi-reader mode).  While readers hold the lock of a key no writer
  runs on it, so L2's entry of the key is fixed and L1's entry is either what it was or the
  back-filled copy of L2's; `Stable` says that a program, answered at EACH of its requests from
  ANY state of that class, keeps the state in the class and ends with a result satisfying `Q`.
  That the single-key gets of both ports satisfy it is ReaderGet.lean.
-/
import Rend.Proofs.CacheInv
import Rend.Proofs.Serial

namespace Rend.Conc
open Rend

theorem cacheInvAt_congr (now : Nat) (w w' : World) (k : Bytes) (h : at' w k = at' w' k)
    (hi : CacheInvAt now w k) : CacheInvAt now w' k := by
  simp only [at', Prod.mk.injEq] at h
  unfold CacheInvAt
  rw [← look_congr _ _ now k h.1, ← look_congr _ _ now k h.2]
  exact hi

/-- The states a key can be in during a read phase: the cache invariant holds at the key and L2
    holds `b`. -/
def InClass (now : Nat) (k : Bytes) (b : Option Item) (w : World) : Prop := CacheInvAt now w k ∧ w.l2 k = b

theorem InClass.congr {now : Nat} {k : Bytes} {b : Option Item} {w w' : World} (hw : InClass now k b w)
    (h : at' w k = at' w' k) : InClass now k b w' :=
  ⟨cacheInvAt_congr now w w' k h hw.1, (congrArg Prod.snd h).symm.trans hw.2⟩

theorem InClass.l1_hit {now : Nat} {k : Bytes} {b : Option Item} {w : World} (hw : InClass now k b w) {a : Item}
    (ha : w.l1.look now k = some a) : ∃ b', b = some b' ∧ b'.live now = true ∧ a.data = b'.data ∧ a.flags = b'.flags := by
  obtain ⟨b', hb, h1, h2, _⟩ := hw.1 a ha
  obtain ⟨h3, h4⟩ := look_some.mp hb
  exact ⟨b', by rw [← hw.2]; exact h3, h4, h1, h2⟩

/-- `call`: the request keeps every state of the class in the class, and the continuation is
    judged on the answer from every state of the class — its own requests again from EVERY state,
    not from the one this request left: other readers may have moved L1 within the class in
    between.  `Q` speaks of the result and the events still to come; it is an index because `emit`
    shifts it. -/
inductive Stable {α : Type} (now : Nat) (k : Bytes) (b : Option Item) : (α × List OEv → Prop) → Prog OEv α → Prop where
  | ret (Q : α × List OEv → Prop) (a : α) : Q (a, []) → Stable now k b Q (.ret a)
  | call (Q : α × List OEv → Prop) (t : Tier) (r : Req) (K : Resp → Prog OEv α) :
      (∀ w, InClass now k b w → InClass now k b (w.put t (Mc.exec now (w.get t) r).1)) →
      (∀ w, InClass now k b w → Stable now k b Q (K (Mc.exec now (w.get t) r).2)) → Stable now k b Q (.call t r K)
  | draw (Q : α × List OEv → Prop) (K : Bytes → Prog OEv α) : Stable now k b Q (K (Bytes.zeros 16)) → Stable now k b Q (.draw K)
  | emit (Q : α × List OEv → Prop) (e : OEv) (p : Prog OEv α) :
      Stable now k b (fun x => Q (x.1, e :: x.2)) p → Stable now k b Q (.emit e p)

namespace Stable
variable {α β : Type} {now : Nat} {k : Bytes} {b : Option Item}

theorem mono {Q Q' : α × List OEv → Prop} {p : Prog OEv α} (h : Stable now k b Q p) (hq : ∀ x, Q x → Q' x) :
    Stable now k b Q' p := by
  induction h generalizing Q' with
  | ret Q a ha => exact Stable.ret _ a (hq _ ha)
  | call Q t r K hc _ ih => exact Stable.call _ t r K hc (fun w hw => ih w hw hq)
  | draw Q K _ ih => exact Stable.draw _ K (ih hq)
  | emit Q e p _ ih => exact Stable.emit _ e p (ih (fun x hx => hq _ hx))

theorem bind : ∀ (p : Prog OEv α) (f : α → Prog OEv β) (Q : β × List OEv → Prop),
    Stable now k b (fun x => Stable now k b (fun y => Q (y.1, x.2 ++ y.2)) (f x.1)) p →
    Stable now k b Q (p >>= f)
  | .ret a, f, Q, h => by
    cases h with
    | ret _ _ ha => exact ha
  | .call t r K, f, Q, h => by
    cases h with
    | call _ _ _ _ hc hh => exact Stable.call _ t r _ hc fun w hw => bind (K _) f Q (hh w hw)
  | .draw K, f, Q, h => by
    cases h with
    | draw _ _ hh => exact Stable.draw _ _ (bind (K _) f Q hh)
  | .emit e p, f, Q, h => by
    cases h with
    | emit _ _ _ hh => exact Stable.emit _ e _ (bind p f (fun z => Q (z.1, e :: z.2)) hh)

theorem pure (Q : α × List OEv → Prop) (a : α) (h : Q (a, [])) : Stable now k b Q (Pure.pure a : Prog OEv α) :=
  Stable.ret Q a h

theorem req (Q : Resp × List OEv → Prop) (t : Tier) (r : Req)
    (h : ∀ w, InClass now k b w → InClass now k b (w.put t (Mc.exec now (w.get t) r).1) ∧ Q ((Mc.exec now (w.get t) r).2, [])) :
    Stable now k b Q (Prog.req t r) :=
  Stable.call _ t r _ (fun w hw => (h w hw).1) (fun w hw => Stable.ret _ _ (h w hw).2)

theorem out (Q : Unit × List OEv → Prop) (e : OEv) (h : Q ((), [e])) : Stable now k b Q (Prog.out e) :=
  Stable.emit _ e _ (Stable.ret _ () h)

end Stable

end Rend.Conc
