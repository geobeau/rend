/-
  The wire opaques of a batch are a sublist of `(List.range' (c + 1) (span rs)).map w32`, hence distinct
  while `span rs < 2^32` (`wires_nodup`); with distinct opaques the reader routes any sequence of
  distinct replies to entries of its table (`deliverAll_ok`).  The retry of a multi-key get: the keys
  answered and the keys still `remaining` are together the keys asked for (`remaining_perm`).
-/
import Rend.Handlers.Batched

namespace Rend.Batched
open Rend

theorem w32_add_left (a b : Nat) : w32 (w32 a + b) = w32 (a + b) := by
  unfold w32; omega

/-- Number of opaque values a request consumes: a get advances the counter by one more than its keys,
    the value after its last key stays unused. -/
def slots (r : BReq) : Nat :=
  match r.kind with
  | .get | .getE => 1 + r.keys.length
  | _ => 1

def span (rs : List BReq) : Nat := (rs.map slots).sum

theorem assignKeys_wires (kind : BKind) (chan : Nat) (o : Nat) (ks : List BKey) :
    (assignKeys kind chan (w32 o) ks).2.map (·.wire) = (List.range' o ks.length).map w32 := by
  induction ks generalizing o with
  | nil => rfl
  | cons k rest ih => simp [assignKeys, List.range'_succ, w32_add_left, ih (o + 1)]

theorem assignKeys_own (kind : BKind) (chan : Nat) : ∀ (o : Nat) (ks : List BKey),
    ∀ h ∈ (assignKeys kind chan o ks).2, h.chan = chan ∧ (⟨h.key, h.opq, h.quiet⟩ : BKey) ∈ ks
  | _, [], h, hh => by simp [assignKeys] at hh
  | o, k :: rest, h, hh => by
    simp only [assignKeys, List.mem_cons] at hh
    rcases hh with rfl | hh
    · exact ⟨rfl, List.mem_cons_self ..⟩
    · obtain ⟨a, b⟩ := assignKeys_own kind chan _ rest h hh
      exact ⟨a, List.mem_cons_of_mem _ b⟩

theorem assignKeys_length (kind : BKind) (chan : Nat) : ∀ (o : Nat) (ks : List BKey),
    (assignKeys kind chan o ks).2.length = ks.length
  | _, [] => rfl
  | o, k :: rest => by simp [assignKeys, assignKeys_length kind chan _ rest]

theorem assignReq_wires (c : Nat) (r : BReq) :
    (assignReq (w32 c) r).1 = w32 (c + slots r) ∧
    ((assignReq (w32 c) r).2.2.1.map (·.wire)).Sublist ((List.range' (c + 1) (slots r)).map w32) := by
  have hk : ((List.range' (c + 1) r.keys.length).map w32).Sublist
      ((List.range' (c + 1) (1 + r.keys.length)).map w32) :=
    (List.range'_sublist_right.mpr (by omega)).map _
  unfold assignReq slots
  cases r.kind <;> simp [w32_add_left, assignKeys_wires, Nat.add_assoc, hk]

theorem assign_wires_sublist (c : Nat) (rs : List BReq) :
    ((assign (w32 c) rs).2.1.map (·.wire)).Sublist ((List.range' (c + 1) (span rs)).map w32) := by
  induction rs generalizing c with
  | nil => exact List.Sublist.slnil
  | cons r rest ih =>
    obtain ⟨hc, hs⟩ := assignReq_wires c r
    simp only [assign, span, List.map_cons, List.sum_cons, hc, List.map_append]
    rw [← List.range'_append_1, List.map_append, show c + 1 + slots r = c + slots r + 1 by omega]
    exact hs.append (ih _)

theorem nodup_map_w32_range' (c n : Nat) (h : n < 4294967296) : ((List.range' c n).map w32).Nodup := by
  rw [List.Nodup, List.pairwise_map]
  refine (List.pairwise_lt_range' (s := c) (n := n)).imp_of_mem fun ha hb hlt => ?_
  simp only [List.mem_range'_1] at ha hb
  unfold w32; omega

theorem wires_nodup (c : Nat) (rs : List BReq) (h : span rs < 4294967296) :
    ((assign (w32 c) rs).2.1.map (·.wire)).Nodup :=
  (assign_wires_sublist c rs).nodup (nodup_map_w32_range' _ _ h)

theorem find_erase_wire : ∀ (tbl : List Handle) (w : Nat), w ∈ tbl.map (·.wire) →
    ∃ h, tbl.find? (fun h => h.wire == w) = some h ∧ h ∈ tbl ∧ h.wire = w ∧
      (tbl.erase h).map (·.wire) = (tbl.map (·.wire)).erase w
  | a :: t, w, hw => by
    by_cases ha : a.wire = w
    · exact ⟨a, by simp [ha], List.mem_cons_self .., ha, by simp [ha]⟩
    · obtain ⟨h, hf, hm, hh, he⟩ := find_erase_wire t w (by simpa [Ne.symm ha] using hw)
      have : a ≠ h := fun e => ha (e ▸ hh)
      exact ⟨h, by simp [ha, hf], List.mem_cons_of_mem _ hm, hh, by simp [this, ha, he]⟩

theorem deliverAll_ok : ∀ (ws : List Nat) (s : RSt), (s.table.map (·.wire)).Nodup → ws.Nodup →
    (∀ w ∈ ws, w ∈ s.table.map (·.wire)) →
    ∃ s' hs, deliverAll s ws = some (s', hs) ∧ hs.map (·.wire) = ws ∧ (∀ h ∈ hs, h ∈ s.table) ∧
      (∀ w, w ∈ s'.table.map (·.wire) ↔ (w ∈ s.table.map (·.wire) ∧ w ∉ ws))
  | [], s, _, _, _ => ⟨s, [], rfl, rfl, by simp, by simp⟩
  | w :: ws, s, hnd, hwn, hsub => by
    obtain ⟨h, hf, hm, hw, he⟩ := find_erase_wire s.table w (hsub w (List.mem_cons_self ..))
    rw [List.nodup_cons] at hwn
    -- the invariant: the opaques still in the table are distinct and include those still to come
    obtain ⟨s', hs, hd, hmap, hin, hiff⟩ := deliverAll_ok ws ⟨s.table.erase h, decr h.chan s.counts⟩
      (he ▸ hnd.erase w) hwn.2 fun x hx => by
        rw [he, hnd.mem_erase_iff]
        exact ⟨fun e => hwn.1 (e ▸ hx), hsub x (List.mem_cons_of_mem _ hx)⟩
    refine ⟨s', h :: hs, by simp only [deliverAll, deliver, hf, hd], by simp [hmap, hw], ?_, fun x => ?_⟩
    · intro x hx
      rcases List.mem_cons.mp hx with rfl | hx
      · exact hm
      · exact List.mem_of_mem_erase (hin x hx)
    · rw [hiff x, he, hnd.mem_erase_iff, List.mem_cons, not_or]
      exact ⟨fun ⟨⟨a, b⟩, c⟩ => ⟨b, a, c⟩, fun ⟨b, a, c⟩ => ⟨⟨a, b⟩, c⟩⟩

/-- Assumed of the answers received: each is an answer to a key still being waited for. -/
def AnswersOf : List BKey → List BKey → Prop
  | _, [] => True
  | req, a :: as => a ∈ req ∧ AnswersOf (req.erase a) as

theorem remaining_perm : ∀ (answered requested : List BKey), AnswersOf requested answered →
    (answered ++ remaining requested answered).Perm requested
  | [], requested, _ => by simp [remaining]
  | a :: as, requested, h => by
    obtain ⟨ha, hrest⟩ := h
    have ih := remaining_perm as (requested.erase a) hrest
    simp only [remaining, List.foldl_cons, List.cons_append] at ih ⊢
    exact (List.Perm.cons a ih).trans (List.perm_cons_erase ha).symm

end Rend.Batched
