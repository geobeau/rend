/-
  The locking wrapper around the two-tier orchestrators refines the single-map specification as
  well: lock events aside, what the client is told is what the specification says.  The fault-free
  run of the wrapper's normal form `lockedThen` (LockedRuns.lean) is `eval_lockedThen`.
-/
import Rend.Proofs.OrcaSeq
import Rend.Proofs.LockedRuns

namespace Rend

def respsOnly (es : List OEv) : List OEv := es.filter OEv.isResp

@[simp] theorem respsOnly_nil : respsOnly [] = [] := rfl
@[simp] theorem respsOnly_acquire (s : Nat) (r : Bool) (es : List OEv) : respsOnly (.acquire s r :: es) = respsOnly es := rfl
@[simp] theorem respsOnly_release (s : Nat) (r : Bool) (es : List OEv) : respsOnly (.release s r :: es) = respsOnly es := rfl
@[simp] theorem respsOnly_resp (e : REv) (es : List OEv) : respsOnly (.resp e :: es) = .resp e :: respsOnly es := rfl

@[simp] theorem respsOnly_append (a b : List OEv) : respsOnly (a ++ b) = respsOnly a ++ respsOnly b := by
  simp [respsOnly]

@[simp] theorem respsOnly_gets (gs : List GetResp) :
    respsOnly (gs.map (fun x => OEv.resp (.get x))) = gs.map (fun x => OEv.resp (.get x)) :=
  List.filter_eq_self.mpr (List.forall_mem_map.mpr fun _ _ => rfl)

theorem filter_gate_gets (gs : List GetResp) (o : Nat) (b : Bool) :
    (gs.map (fun x => OEv.resp (.get x)) ++ [OEv.resp (.getEnd o b)]).filter (fun e => !isGetEndEv e) =
      gs.map (fun x => OEv.resp (.get x)) := by
  rw [List.filter_append, List.filter_eq_self.mpr (List.forall_mem_map.mpr fun _ _ => rfl)]
  simp [isGetEndEv]

theorem respsOnly_of_onlyResp {α} {p : OProg α} (hp : OnlyResp p) (now : Nat) (w : World) (tk : List Bytes) :
    respsOnly (p.eval now w tk).2.1 = (p.eval now w tk).2.1 := by
  unfold respsOnly
  rw [List.filter_eq_self]
  exact hp.out _ _ (Prog.eval_runs now p w tk)

theorem eval_lockedThen (now : Nat) (s : Nat) (rd : Bool) (p : OProg (HRes Unit)) (k : HRes Unit → OProg (HRes Unit))
    (w : World) (tk : List Bytes) :
    (lockedThen s rd p k).eval now w tk =
      let x := p.eval now w tk
      let y := (k x.1).eval now x.2.2.1 x.2.2.2
      if isCrash x.1 then (x.1, .acquire s rd :: x.2.1, x.2.2)
      else (y.1, .acquire s rd :: (x.2.1 ++ .release s rd :: y.2.1), y.2.2) := by
  unfold lockedThen
  rw [Prog.eval_bind, Prog.eval_out, Prog.eval_bind]
  dsimp only
  split
  · simp only [Prog.eval_pure, List.singleton_append, List.append_nil]
  · simp only [Prog.eval_bind, Prog.eval_out, List.singleton_append]

/-- `Runs.gate_inv` for the fault-free run. -/
theorem eval_gate (now : Nat) (last : Bool) (p : OProg (HRes Unit)) (w : World) (tk : List Bytes) :
    (if !last then Prog.filterEmit (fun e => !isGetEndEv e) p else p).eval now w tk =
      ((p.eval now w tk).1,
       if last then (p.eval now w tk).2.1 else (p.eval now w tk).2.1.filter fun e => !isGetEndEv e,
       (p.eval now w tk).2.2) := by
  cases last
  · exact Prog.eval_filterEmit now _ p w tk
  · rfl

/-- `ks` runs through the suffixes of `g.keys`: the loop on `ks` answers the get of `ks` with `g`'s terminator. -/
theorem eval_lockedGetLoop (now : Nat) (f : Gen.LockedFact)
    (hf : f.usesLock = true ∧ f.inlineUnlock = true ∧ f.recovers = true ∧ f.recoverUnlocks = true ∧
      f.repanics = true ∧ f.gatesGetEnd = true)
    (bits : Nat) (step : Cmd → OProg (HRes Unit))
    (hstep : ∀ w tk sub, CacheInv now w → Refines now w (.get sub) ((step (.get sub)).eval now w tk)) (g : GetCmd) :
    ∀ (ks : List GetKey), ks ≠ [] → ∀ (w : World) (tk : List Bytes), CacheInv now w →
      Refines now w (.get { g with keys := ks })
        (((lockedGetLoop f bits (fun sub => step (.get sub)) g ks).eval now w tk).1,
         respsOnly ((lockedGetLoop f bits (fun sub => step (.get sub)) g ks).eval now w tk).2.1,
         ((lockedGetLoop f bits (fun sub => step (.get sub)) g ks).eval now w tk).2.2) := by
  intro ks
  induction ks with
  | nil => intro h; exact absurd rfl h
  | cons k rest ih =>
    intro _ w tk hinv
    obtain ⟨(h1 : _ = w.l2), h2, hres, gs, hev, hperm⟩ := hstep w tk
      { keys := [k], noopOpaque := if rest.isEmpty then g.noopOpaque else 0,
        noopEnd := if rest.isEmpty then g.noopEnd else false } hinv
    rw [lockedGetLoop_cons_eq f hf, eval_lockedThen, eval_gate]
    simp only [hres, isCrash, Bool.false_eq_true, if_false]
    cases rest with
    | nil =>
      -- the last key: its terminator is the request's, and nothing follows
      refine ⟨h1, h2, rfl, gs, ?_, hperm⟩
      simp only [List.isEmpty_nil, if_true] at hev
      simp [lockedGetLoop, hev]
    | cons k' rest' =>
      obtain ⟨(i1 : _ = _), i2, ires, gs', iev, iperm⟩ := ih (List.cons_ne_nil _ _) _ _ h2
      refine ⟨i1.trans h1, i2, ires, gs ++ gs', ?_, ?_⟩
      · simp only [List.isEmpty_cons, Bool.false_eq_true, if_false] at hev iev ⊢
        rw [hev, filter_gate_gets]
        simp [iev]
      · rw [h1] at iperm
        simpa [specGets] using hperm.append iperm

theorem portStep_onlyResp (p : Port) (c : Cmd) : OnlyResp (portStep p c) := by
  cases p
  · exact Replies.onlyResp (OrcaKind.step_replies .l1l2 _ _ (Std.silent .l1) (Std.silent .l2) c)
  · exact Replies.onlyResp (OrcaKind.step_replies .l1l2batch _ _ (Std.silent .l1) (Std.silent .l2) c)

/-- A get asks for at least one key.  An assumption about the commands: `lockedGetLoop … [] =
    pure (.ok ())` emits no terminator, so under the wrapper a get of no keys is not answered as
    the specification answers it. -/
def GetsNonEmpty (c : Cmd) : Prop := ∀ g, c = .get g → g.keys ≠ []

theorem locked_step_refines (now : Nat) (bits : Nat) (w : World) (tk : List Bytes) (p : Port) (c : Cmd) (hc : TwoTier c)
    (hk : GetsNonEmpty c) (hinv : CacheInv now w) :
    Refines now w c
      (((Locked.step bits (portStep p) c).eval now w tk).1,
       respsOnly ((Locked.step bits (portStep p) c).eval now w tk).2.1,
       ((Locked.step bits (portStep p) c).eval now w tk).2.2) := by
  obtain ⟨h1, h2, h3⟩ := portStep_refines now w tk p c hc hinv
  have hclean : isCrash ((portStep p c).eval now w tk).1 = false := by
    rcases h3.ok_or_app with h | ⟨e, h⟩ <;> rw [h] <;> rfl
  have hresp := respsOnly_of_onlyResp (portStep_onlyResp p c) now w tk
  cases hkey : c.lockKey with
  | some key =>
    obtain ⟨n, hn, e⟩ := Locked.step_keyed bits (portStep p) hkey
    rw [e, lockedSingle_eq _ (lockedFacts_table.1 n hn), eval_lockedThen]
    simp only [hclean, Bool.false_eq_true, if_false, Prog.eval_pure]
    refine ⟨h1, h2, ?_⟩
    simpa only [respsOnly_acquire, respsOnly_append, hresp, respsOnly_release, respsOnly_nil, List.append_nil] using h3
  | none =>
    rcases Locked.step_unkeyed bits (portStep p) hkey with ⟨g, rfl⟩ | ⟨g, rfl⟩ | e
    · exact eval_lockedGetLoop now (lockedFact "Get") (lockedFacts_table.2 "Get" (.head _)) bits (portStep p)
        (fun w tk sub => portStep_get_refines now w tk p sub) g g.keys (hk g rfl) w tk hinv
    · exact absurd rfl (hc g)
    · rw [e, hresp]
      exact ⟨h1, h2, h3⟩

def runActsL (bits : Nat) (now : Nat) (w : World) (tk : List Bytes) : List Act → List (HRes Unit × List OEv)
  | [] => []
  | .cmd p c :: rest =>
    (((Locked.step bits (portStep p) c).eval now w tk).1, respsOnly ((Locked.step bits (portStep p) c).eval now w tk).2.1) ::
      runActsL bits now ((Locked.step bits (portStep p) c).eval now w tk).2.2.1
        ((Locked.step bits (portStep p) c).eval now w tk).2.2.2 rest
  | .evict lost :: rest => runActsL bits now (w.evict lost) tk rest
  | .tick dt :: rest => runActsL bits (now + dt) w tk rest

def endActsL (bits : Nat) (now : Nat) (w : World) (tk : List Bytes) : List Act → Nat × World
  | [] => (now, w)
  | .cmd p c :: rest =>
    endActsL bits now ((Locked.step bits (portStep p) c).eval now w tk).2.2.1
      ((Locked.step bits (portStep p) c).eval now w tk).2.2.2 rest
  | .evict lost :: rest => endActsL bits now (w.evict lost) tk rest
  | .tick dt :: rest => endActsL bits (now + dt) w tk rest

def ActsGetsNonEmpty (acts : List Act) : Prop := ∀ p c, Act.cmd p c ∈ acts → GetsNonEmpty c

theorem ActsGetsNonEmpty.head {p : Port} {c : Cmd} {rest : List Act} (h : ActsGetsNonEmpty (.cmd p c :: rest)) :
    GetsNonEmpty c :=
  h p c (List.mem_cons_self ..)

theorem ActsGetsNonEmpty.tail {a : Act} {rest : List Act} (h : ActsGetsNonEmpty (a :: rest)) : ActsGetsNonEmpty rest :=
  fun p c hm => h p c (List.mem_cons_of_mem _ hm)

theorem history_refines_locked (bits : Nat) : ∀ (acts : List Act) (now : Nat) (w : World) (tk : List Bytes),
    ActsTwoTier acts → ActsGetsNonEmpty acts → CacheInv now w →
      AllAgree (runActsL bits now w tk acts) (specActs now w.l2 acts) ∧
      (endActsL bits now w tk acts).2.l2 = specEnd now w.l2 acts ∧
      CacheInv (endActsL bits now w tk acts).1 (endActsL bits now w tk acts).2
  | [], _, _, _, _, _, hinv => ⟨.nil, rfl, hinv⟩
  | .cmd p c :: rest, now, w, tk, htt, hne, hinv => by
    obtain ⟨h1, h2, h3⟩ := locked_step_refines now bits w tk p c htt.head hne.head hinv
    obtain ⟨i1, i2, i3⟩ := history_refines_locked bits rest now _
      ((Locked.step bits (portStep p) c).eval now w tk).2.2.2 htt.tail hne.tail h2
    simp only [runActsL, specActs, endActsL, specEnd]
    rw [h1] at i1 i2
    exact ⟨.cons h3 i1, i2, i3⟩
  | .evict lost :: rest, now, w, tk, htt, hne, hinv =>
    history_refines_locked bits rest now (w.evict lost) tk htt.tail hne.tail (hinv.evict lost)
  | .tick dt :: rest, now, w, tk, htt, hne, hinv =>
    history_refines_locked bits rest (now + dt) w tk htt.tail hne.tail (hinv.mono (Nat.le_add_right _ _))

end Rend
