/-
  What both request parsers leave and allocate, on arbitrary bytes: a result hands back no more input
  than it was given and allocates within a budget (`Within`).  One rule per `readN` step carries the
  bound through the body parsers; what `dispatch` and `textParse` return is one of a few forms
  (`DispatchCase`, `TextCase`), each within bounds.
-/
import Rend.Proofs.BinParseLemmas
import Rend.Proofs.TextLemmas

namespace Rend.Wire
open Rend

def Within (n budget : Nat) (pr : PRes) : Prop := pr.rest.length ≤ n ∧ pr.alloc ≤ budget

theorem Within.mono {n n' b b' : Nat} {pr : PRes} (h : Within n b pr) (hn : n ≤ n') (hb : b ≤ b') : Within n' b' pr :=
  ⟨Nat.le_trans h.1 hn, Nat.le_trans h.2 hb⟩

theorem within_fail (n : Nat) {a b : Nat} (rt : ReqType) (e : PErr) (h : a ≤ b) : Within n b (failWith rt e [] a) :=
  ⟨Nat.zero_le _, h⟩

theorem within_id (b : Nat) (c : Option Cmd) (rt : ReqType) (e : Option PErr) (inp : Bytes) :
    Within inp.length b { cmd := c, rt := rt, err := e, rest := inp, alloc := 0 } :=
  ⟨Nat.le_refl _, Nat.zero_le _⟩

theorem within_readN {b m : Nat} {inp : Bytes} {fail : PRes} {k : Bytes → Bytes → PRes}
    (hf : Within inp.length b fail) (hk : ∀ x r, Within r.length b (k x r)) :
    Within inp.length b (match readN m inp with | none => fail | some (x, r) => k x r) := by
  cases e : readN m inp with
  | none => exact hf
  | some p => exact (hk p.1 p.2).mono (Nat.le.intro (readN_some e).2) (Nat.le_refl _)

theorem parseKeyOnly_within (h : ReqHeader) (rt : ReqType) (mk : Bytes → Cmd) (inp : Bytes) :
    Within inp.length h.keyLen (parseKeyOnly h rt mk inp) :=
  within_readN (within_fail _ _ _ (Nat.le_refl _)) fun _ _ => ⟨Nat.le_refl _, Nat.le_refl _⟩

theorem parseExpKey_within (h : ReqHeader) (rt : ReqType) (mk : Nat → Bytes → Cmd) (inp : Bytes) :
    Within inp.length (4 + h.keyLen) (parseExpKey h rt mk inp) :=
  within_readN (within_fail _ _ _ (Nat.le_add_right _ _)) fun _ _ =>
    within_readN (within_fail _ _ _ (Nat.le_refl _)) fun _ _ => ⟨Nat.le_refl _, Nat.le_refl _⟩

/-- After the length check the 32-bit subtraction of `setRequest` does not wrap. -/
theorem realLength_set (h : ReqHeader) (ht : h.total < 4294967296) (hc : ¬ h.total < h.extLen + h.keyLen) :
    (8589934592 + h.total - h.extLen - h.keyLen) % 4294967296 = h.total - h.extLen - h.keyLen := by
  omega

theorem realLength_pend (h : ReqHeader) (ht : h.total < 4294967296) (hc : ¬ h.total < h.keyLen) :
    (4294967296 + h.total - h.keyLen) % 4294967296 = h.total - h.keyLen := by
  omega

/-- `setRequest` allocates the extras, the key and the value the header consistently declares. -/
theorem parseSet_within (h : ReqHeader) (k : SetKind) (q : Bool) (inp : Bytes) (ht : h.total < 4294967296) :
    Within inp.length (8 + h.keyLen + (h.total - h.extLen - h.keyLen)) (parseSet h k q inp) := by
  unfold parseSet
  split
  · exact within_id _ _ _ _ _
  · rename_i hc
    rw [realLength_set h ht hc]
    refine within_readN (within_fail _ _ _ (by omega)) fun _ _ => ?_
    refine within_readN (within_fail _ _ _ (by omega)) fun _ _ => ?_
    refine within_readN (within_fail _ _ _ (by omega)) fun _ _ => ?_
    refine within_readN (within_fail _ _ _ (by omega)) fun _ _ => ?_
    exact ⟨Nat.le_refl _, Nat.le_refl _⟩

theorem parsePend_within (h : ReqHeader) (k : SetKind) (q : Bool) (inp : Bytes) (ht : h.total < 4294967296) :
    Within inp.length (h.keyLen + (h.total - h.keyLen)) (parsePend h k q inp) := by
  unfold parsePend
  split
  · exact within_id _ _ _ _ _
  · rename_i hc
    rw [realLength_pend h ht hc]
    refine within_readN (within_fail _ _ _ (by omega)) fun _ _ => ?_
    refine within_readN (within_fail _ _ _ (by omega)) fun _ _ => ?_
    exact ⟨Nat.le_refl _, Nat.le_refl _⟩

/-- The batch loop allocates one key buffer (below 64 KiB) per header it reads, and every header but
    the first takes 24 bytes of `inp`: with `inp.length < 24 * k` it reads at most `k` headers. -/
theorem readBatch_within (qop op : Nat) (rt : ReqType) (mk : GetCmd → Cmd) :
    ∀ (fuel : Nat) (h : ReqHeader) (inp : Bytes) (acc : List GetKey) (alloc k : Nat),
    h.keyLen < 65536 → inp.length < 24 * k →
    Within inp.length (alloc + 65536 * k) (batchRes rt mk (readBatch qop op fuel h inp acc alloc)) := by
  intro fuel
  induction fuel with
  | zero =>
    intro h inp acc alloc k _ _
    exact within_fail _ _ _ (Nat.le_add_right _ _)
  | succ f ih =>
    intro h inp acc alloc k hk hlen
    have hfail : Within inp.length (alloc + 65536 * k) (failWith rt .eof [] (alloc + h.keyLen)) :=
      within_fail _ _ _ (by omega)
    unfold readBatch
    split
    · -- a quiet get: its key, then the next header
      split
      · exact hfail
      · rename_i key i1 e1
        have hr := readN_some e1
        split
        · rename_i h' i2 e2
          obtain ⟨hl, hk', _⟩ := readHeader_some e2
          exact (ih h' i2 _ (alloc + h.keyLen) (k - 1) hk' (by omega)).mono (by omega) (by omega)
        · exact hfail
    · split
      · -- the closing get
        split
        · exact hfail
        · rename_i key i1 e1
          exact ⟨Nat.le.intro (readN_some e1).2, show alloc + h.keyLen ≤ _ by omega⟩
      · -- a noop, or any other opcode: nothing more is read
        split
        · exact ⟨Nat.le_refl _, Nat.le_add_right _ _⟩
        · exact ⟨Nat.le_refl _, Nat.le_add_right _ _⟩

theorem DispatchCase.within {h : ReqHeader} {rest : Bytes} {pr : PRes} (hc : DispatchCase h rest pr)
    (hk : h.keyLen < 65536) (ht : h.total < 4294967296) :
    Within rest.length (8 + h.keyLen + h.total + 65536 * (rest.length / 24 + 1)) pr := by
  cases hc with
  | set k q => exact (parseSet_within h k q rest ht).mono (Nat.le_refl _) (by omega)
  | pend k q => exact (parsePend_within h k q rest ht).mono (Nat.le_refl _) (by omega)
  | keyOnly rt mk => exact (parseKeyOnly_within h rt mk rest).mono (Nat.le_refl _) (by omega)
  | expKey rt mk => exact (parseExpKey_within h rt mk rest).mono (Nat.le_refl _) (by omega)
  | batch qop op rt mk =>
    exact (readBatch_within qop op rt mk (rest.length + 1) h rest [] 0 _ hk (Nat.lt_mul_div_succ _ (by decide))).mono
      (Nat.le_refl _) (by omega)
  | bare c rt e => exact within_id _ c rt e rest

theorem dispatch_within (h : ReqHeader) (rest : Bytes) (hk : h.keyLen < 65536) (ht : h.total < 4294967296) :
    Within rest.length (8 + h.keyLen + h.total + 65536 * (rest.length / 24 + 1)) (dispatch h rest) :=
  (dispatch_case h rest).within hk ht

theorem binParse_short (inp : Bytes) (h : inp.length < 24) : binParse inp = failWith .unknown .eof [] 0 := by
  simp [binParse, readRequestHeader, readN_short _ _ h]

theorem binParse_rest (inp : Bytes) (h : 24 ≤ inp.length) : (binParse inp).rest.length + 24 ≤ inp.length := by
  unfold binParse
  cases hh : readRequestHeader inp with
  | eof =>
    have : readN Gen.binprot_ReqHeaderLen inp = some (inp.take 24, inp.drop 24) := if_neg (Nat.not_lt.mpr h)
    simp only [readRequestHeader, this] at hh
    split at hh <;> cases hh
  | badMagic =>
    simp only [failWith, Gen.binprot_ReqHeaderLen, List.length_drop]
    omega
  | ok hd rest =>
    have := (readHeader_some hh).1
    have := (dispatch_within hd rest (readHeader_some hh).2.1 (readHeader_some hh).2.2).1
    simp only
    omega

/-- `setRequest` of the text protocol allocates the announced length, a 32-bit number. -/
theorem textSet_within (k : SetKind) (parts : List Bytes) (rest : Bytes) :
    Within rest.length 4294967295 (textSet k parts rest) := by
  unfold textSet
  split
  · split
    · exact within_id _ _ _ _ _
    · split
      · exact within_id _ _ _ _ _
      · split
        · exact within_id _ _ _ _ _
        · rename_i length hlen
          have hl : length ≤ 4294967295 := Nat.le_of_lt_succ (parseUint32_lt hlen)
          refine within_readN (within_fail _ _ _ hl) fun data rest1 => ⟨?_, hl⟩
          -- what follows the data block, through its newline
          show (match readLine rest1 with | some (_, r) => r | none => []).length ≤ rest1.length
          split
          · rename_i r e
            exact Nat.le_of_lt (readLine_some e)
          · exact Nat.zero_le _
  · exact within_id _ _ _ _ _

inductive TextCase (parts : List Bytes) (rest : Bytes) : PRes → Prop
  | store (k : SetKind) : TextCase parts rest (textSet k parts rest)
  | bare (c : Option Cmd) (rt : ReqType) (e : Option PErr) :
      TextCase parts rest { cmd := c, rt := rt, err := e, rest := rest, alloc := 0 }

theorem textParse_case {inp line rest : Bytes} (hl : readLine inp = some (line, rest)) :
    TextCase (splitSpace (trimSpace line)) rest (textParse inp) := by
  unfold textParse
  rw [hl]
  -- split at every test of the command word or of the number of words, then at the matches on the
  -- words of a delete and a touch: each leaf is one of the two forms as it stands
  repeat' (refine iteInduction (fun _ => ?_) fun _ => ?_)
  all_goals repeat' split
  all_goals constructor

theorem TextCase.within {parts : List Bytes} {rest : Bytes} {pr : PRes} (hc : TextCase parts rest pr) :
    Within rest.length 4294967295 pr := by
  cases hc with
  | store k => exact textSet_within k parts rest
  | bare c rt e => exact within_id _ c rt e rest

theorem textParse_within {inp line rest : Bytes} (hl : readLine inp = some (line, rest)) :
    Within rest.length 4294967295 (textParse inp) :=
  (textParse_case hl).within

end Rend.Wire
