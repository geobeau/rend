/-
  The read path of the chunked handler against an arbitrary backend store, in closed form: what a
  get answers is a function (`readKey`) of what the store serves under the key's derived entries.
  Against a consistent store the chunks that are read yield a miss or one intent's value, whole.
-/
import Rend.Proofs.ChunkedReassembly
import Rend.Proofs.Eval

namespace Rend.Chunked
open Rend

def presentItems (now : Nat) (s : Store) (key : Bytes) : Nat → Nat → List Item
  | 0, _ => []
  | n + 1, i =>
    match s.look now (chunkKey key i) with
    | some it => it :: presentItems now s key n (i + 1)
    | none => presentItems now s key n (i + 1)

theorem presentItems_length_le (now : Nat) (s : Store) (key : Bytes) : ∀ n i, (presentItems now s key n i).length ≤ n
  | 0, _ => Nat.le_refl _
  | n + 1, i => by
    simp only [presentItems]
    have := presentItems_length_le now s key n (i + 1)
    split <;> simp <;> omega

theorem presentItems_all (now : Nat) (s : Store) (key : Bytes) (it : Nat → Item) :
    ∀ n i, (∀ j, i ≤ j → j < i + n → s.look now (chunkKey key j) = some (it j)) →
      presentItems now s key n i = (List.range' i n).map it
  | 0, _, _ => rfl
  | n + 1, i, h => by
    simp only [presentItems, h i (Nat.le_refl _) (by omega), List.range'_succ, List.map_cons]
    rw [presentItems_all now s key it n (i + 1) (fun j h1 h2 => h j (by omega) (by omega))]

theorem presentItems_congr (now : Nat) (s s' : Store) (key : Bytes) : ∀ n i,
    (∀ j, i ≤ j → j < i + n → s'.look now (chunkKey key j) = s.look now (chunkKey key j)) →
    presentItems now s' key n i = presentItems now s key n i
  | 0, _, _ => rfl
  | n + 1, i, h => by
    simp only [presentItems, h i (Nat.le_refl _) (by omega)]
    rw [presentItems_congr now s s' key n (i + 1) (fun j h1 h2 => h j (by omega) (by omega))]

theorem Consistent.chunk_own {s : Store} {H : List Intent} (hc : Consistent s H) {h : Intent} (hH : h ∈ H) {now : Nat}
    {j : Nat} {it : Item} (hl : s.look now (chunkKey h.key j) = some it)
    (ht : (it.data.take Gen.chunked_tokenSize != h.token) = false) : it.data = h.chunkVal j := by
  obtain ⟨h', hH', _, hv⟩ := hc.chunkE h.key j it (look_some.mp hl).1
  have : it.data.take Gen.chunked_tokenSize = h'.token := by
    rw [hv, Intent.chunkVal, Gen.chunked_tokenSize]; exact List.take_left' (hc.toklen h' hH')
  rw [this] at ht
  rw [hv, hc.tokens h' hH' h hH (by simpa using ht)]

theorem presentItems_own {s : Store} {H : List Intent} (hc : Consistent s H) {h : Intent} (hH : h ∈ H) (now : Nat) :
    ∀ n i, (presentItems now s h.key n i).length = n →
      (presentItems now s h.key n i).any (fun it => it.data.take Gen.chunked_tokenSize != h.token) = false →
      (presentItems now s h.key n i).map (·.data) = (List.range' i n).map h.chunkVal
  | 0, _, _, _ => rfl
  | n + 1, i, hlen, hany => by
    have hle := presentItems_length_le now s h.key n (i + 1)
    simp only [presentItems] at hlen hany ⊢
    cases hl : s.look now (chunkKey h.key i) with
    | none => simp only [hl] at hlen; omega
    | some it =>
      simp only [hl, List.length_cons, Nat.add_right_cancel_iff, List.any_cons, Bool.or_eq_false_iff] at hlen hany ⊢
      rw [List.range'_succ, List.map_cons, List.map_cons, hc.chunk_own hH hl hany.1,
        presentItems_own hc hH now n (i + 1) hlen hany.2]

theorem readResult_sound (now : Nat) (s : Store) (md : Meta) (H : List Intent) (h : Intent) (hH : h ∈ H)
    (hcons : Consistent s H) (hd : h.Describes md) :
    readResult md (presentItems now s h.key md.numChunks 0) = .miss ∨
    readResult md (presentItems now s h.key md.numChunks 0) = .value h.data := by
  by_cases hfull : (presentItems now s h.key md.numChunks 0).length = md.numChunks
  · cases hany : (presentItems now s h.key md.numChunks 0).any (fun it => it.data.take Gen.chunked_tokenSize != h.token) with
    | true => left; simp [readResult, foldl_miss, hd.1, hany]
    | false =>
      exact Or.inr (readResult_own md h hd (hcons.keylen h hH) (hcons.toklen h hH) _
        (presentItems_own hcons hH now _ 0 hfull hany))
  · left; simp [readResult, hfull]

variable {ε : Type}

theorem eval_askChunks_getq (now : Nat) (t : Tier) (key : Bytes) (e : Nat) (w : World) (tk : List Bytes) :
    ∀ n i, (askChunks (ε := ε) t .getq key e n i).eval now w tk =
      ((presentItems now (w.get t) key n i).map (fun it => Resp.hit it.flags 0 it.data), [], w, tk)
  | 0, _ => rfl
  | n + 1, i => by
    simp only [askChunks, Prog.eval_bind, Prog.eval_req, Mc.exec, presentItems]
    cases (w.get t).look now (chunkKey key i) <;> simp [eval_askChunks_getq now t key e w tk n (i + 1)]

theorem eval_readChunks_of {now : Nat} {t : Tier} {op : Op} {key : Bytes} {e : Nat} {md : Meta} {w w' : World} {tk : List Bytes}
    {its : List Item}
    (h : (askChunks (ε := ε) t op key e md.numChunks 0).eval now w tk =
      (its.map (fun it => Resp.hit it.flags 0 it.data), [], w', tk)) :
    (readChunks (ε := ε) t op key e md).eval now w tk = (readResult md its, [], w', tk) := by
  simp [readChunks_eq, Prog.eval_bind, h, Mc.exec, readOut_hits]

theorem eval_readChunks_getq' {ε} (now : Nat) (t : Tier) (key : Bytes) (md : Meta) (w : World) (tk : List Bytes) :
    (readChunks (ε := ε) t .getq key 0 md).eval now w tk =
      (readResult md (presentItems now (w.get t) key md.numChunks 0), [], w, tk) :=
  eval_readChunks_of (eval_askChunks_getq now t key 0 w tk _ 0)

/-- What the read path finds under `key` in store `s`: the live metadata record, decoded, with the outcome
    (`readResult`) of reading the chunk entries `s` serves for it. -/
def readKey (now : Nat) (s : Store) (key : Bytes) : Option (Meta × ReadOut) :=
  (s.look now (metaKey key)).map fun it =>
    (decodeMeta it.data, readResult (decodeMeta it.data) (presentItems now s key (decodeMeta it.data).numChunks 0))

def respOf (key : Bytes) (opq : Nat) (quiet : Bool) : Option (Meta × ReadOut) → GetResp
  | none => { key := key, opq := opq, miss := true, quiet := quiet }
  | some (md, .value d) => { key := key, data := d, opq := opq, flags := md.origFlags, quiet := quiet }
  | some (md, _) => { key := key, opq := opq, flags := md.origFlags, miss := true, quiet := quiet }

theorem respOf_key (key : Bytes) (opq : Nat) (quiet : Bool) (v : Option (Meta × ReadOut)) :
    (respOf key opq quiet v).key = key := by
  unfold respOf
  split <;> rfl

theorem readKey_complete (now : Nat) (s : Store) (h : Intent) (md : Meta) (hwf : md.WF) (hd : h.Describes md)
    (hk : h.key.length ≤ 250) (mit : Item) (hm : s.look now (metaKey h.key) = some mit) (hmd : mit.data = encodeMeta md)
    (cit : Nat → Item) (hc : ∀ j, j < md.numChunks → s.look now (chunkKey h.key j) = some (cit j))
    (hcd : ∀ j, (cit j).data = h.chunkVal j) :
    readKey now s h.key = some (md, .value h.data) := by
  simp only [readKey, hm, Option.map_some, hmd, decode_encode md hwf]
  rw [presentItems_all now s h.key cit _ 0 fun j _ hj => hc j (by omega),
    readResult_own md h hd hk (hd.1 ▸ hwf.tok) _ (by simp [hcd])]

theorem eval_getLoop (now : Nat) (t : Tier) (w : World) (tk : List Bytes) : ∀ ks : List GetKey,
    (getLoop (ε := ε) t ks).eval now w tk =
      ((ks.map fun g => respOf g.key g.opq g.quiet (readKey now (w.get t) g.key), none), [], w, tk)
  | [] => rfl
  | g :: rest => by
    have ih := eval_getLoop now t w tk rest
    simp only [getLoop, Prog.eval_bind, Prog.eval_req, Mc.exec, List.map_cons]
    cases hl : (w.get t).look now (metaKey g.key) with
    | none => simp [readKey, hl, metaOf, decode_notFound, Prog.eval_bind, ih, respOf]
    | some it =>
      simp only [metaOf, World.put_get_self, Prog.eval_bind, eval_readChunks_getq']
      rcases readResult_cases (decodeMeta it.data) (presentItems now (w.get t) g.key (decodeMeta it.data).numChunks 0)
        with hr | ⟨d, hr⟩ <;> simp [readKey, hl, hr, Prog.eval_bind, ih, respOf]

def AnswerOK (H : List Intent) (resp : GetResp) : Prop :=
  resp.miss = true ∨ ∃ h ∈ H, h.key = resp.key ∧ resp.data = h.data ∧ resp.flags = h.flags

theorem respOf_ok {s : Store} {H : List Intent} (hc : Consistent s H) (now : Nat) (key : Bytes) (opq : Nat) (quiet : Bool) :
    AnswerOK H (respOf key opq quiet (readKey now s key)) := by
  unfold readKey
  cases hl : s.look now (metaKey key) with
  | none => exact Or.inl rfl
  | some it =>
    obtain ⟨h, hH, rfl, hd⟩ := hc.metaE key it (look_some.mp hl).1
    rcases readResult_sound now s _ H h hH hc hd with hr | hr <;> simp only [Option.map_some, hr, respOf]
    · exact Or.inl rfl
    · exact Or.inr ⟨h, hH, rfl, rfl, hd.2.2.1⟩

end Rend.Chunked
