/-
  One command of either two-tier orchestrator (l1l2.go, l1l2batch.go) over pass-through handlers,
  against the single map.  `Agrees` says what it means that the client is told what the
  specification answers; `Refines` is the statement proved, command by command, for both ports.
-/
import Rend.Proofs.CacheInv
import Rend.Proofs.EvalStd

namespace Rend

inductive Port where
  | main | batch
  deriving Repr, DecidableEq

def portStep : Port → Cmd → OProg (HRes Unit)
  | .main => L1L2.step (Std.handler .l1) (Std.handler .l2)
  | .batch => L1L2Batch.step (Std.handler .l1) (Std.handler .l2)

theorem portStep_delete (p : Port) (c : KeyCmd) : portStep p (.delete c) =
    twoTier ((Std.handler .l2).delete c) ((Std.handler .l1).delete c) (isErr · .keyNotFound) none (.deleted c.opq) := by
  cases p
  · exact L1L2.step_delete ..
  · exact L1L2Batch.step_delete ..

theorem portStep_touch (p : Port) (c : KeyCmd) : portStep p (.touch c) =
    twoTier ((Std.handler .l2).touch c) ((Std.handler .l1).touch c) (isErr · .keyNotFound) none (.touched c.opq) := by
  cases p
  · exact L1L2.step_touch ..
  · exact L1L2Batch.step_touch ..

/-- What one answer of a get tells the client. -/
def viewOf (r : GetResp) : Bytes × Nat × Bool × Option (Nat × Bytes) :=
  (r.key, r.opq, r.quiet, if r.miss then none else some (r.flags, r.data))

/-- The answer of a key of the specification, in the form `viewOf` produces. -/
def specViewOf (p : GetKey × Option (Nat × Bytes)) : Bytes × Nat × Bool × Option (Nat × Bytes) :=
  (p.1.key, p.1.opq, p.1.quiet, p.2)

/-- What the orchestrator returned (`res`) and told the responder (`evs`) carries the content of the
    specification's answer `o`; the answers of a multi-key get as a multiset, their order is not part
    of the contract. -/
def Agrees (c : Cmd) (o : SOut) (res : HRes Unit) (evs : List OEv) : Prop :=
  match c, o with
  | .store k sc, .ok => res = .ok () ∧ evs = [.resp (.stored k sc.opq sc.quiet)]
  | .store _ _, .fail => (∃ e, res = .error (.app e)) ∧ evs = []
  | .get g, .gets rs => res = .ok () ∧ ∃ gs : List GetResp,
      evs = gs.map (fun x => OEv.resp (.get x)) ++ [.resp (.getEnd g.noopOpaque g.noopEnd)] ∧
      (gs.map viewOf).Perm (rs.map specViewOf)
  | .getE g, .gets rs => res = .ok () ∧ ∃ gs : List GetResp,
      evs = gs.map (fun x => OEv.resp (.getE x)) ++ [.resp (.getEnd g.noopOpaque g.noopEnd)] ∧
      (gs.map viewOf).Perm (rs.map specViewOf)
  | .gat k, .gat v => res = .ok () ∧ ∃ r : GetResp, evs = [.resp (.gat r)] ∧ r.opq = k.opq ∧ r.key = k.key ∧
      match v with
      | some (f, d) => r.miss = false ∧ r.flags = f ∧ r.data = d
      | none => r.miss = true
  | .delete k, .ok => res = .ok () ∧ evs = [.resp (.deleted k.opq)]
  | .delete _, .fail => (∃ e, res = .error (.app e)) ∧ evs = []
  | .touch k, .ok => res = .ok () ∧ evs = [.resp (.touched k.opq)]
  | .touch _, .fail => (∃ e, res = .error (.app e)) ∧ evs = []
  | .noop o, .other => res = .ok () ∧ evs = [.resp (.noop o)]
  | .quit o q, .other => res = .ok () ∧ evs = [.resp (.quit o q)]
  | .version o, .other => res = .ok () ∧ evs = [.resp (.version o)]
  | .stat o, .other => res = .ok () ∧ evs = [.resp (.stat o)]
  | .unknown, .other => res = .error (.app .unknownCmd) ∧ evs = []
  | _, _ => False

/-- `r` is what the program of command `c` evaluates to from `w` (result, events, world, tokens):
    L2 moves as the specification's map `w.l2` does under `c`, the invariant is kept, and the client
    is told what the specification answers. -/
def Refines (now : Nat) (w : World) (c : Cmd) (r : HRes Unit × List OEv × World × List Bytes) : Prop :=
  r.2.2.1.l2 = (Spec.step now w.l2 c).1 ∧ CacheInv now r.2.2.1 ∧ Agrees c (Spec.step now w.l2 c).2 r.1 r.2.1

theorem Pairing.self (k : SetKind) : Pairing k k := by
  cases k <;> constructor

theorem Pairing.batch (k : SetKind) : Pairing k (L1L2Batch.l1Kind k) := by
  cases k <;> constructor

theorem Pairing.l1_ok {k k1 : SetKind} (hp : Pairing k k1) (now : Nat) (w : World) (c : SetCmd) (hinv : CacheInv now w)
    (hok : (mcStore now w.l2 k c).2 = true) (tol : HRes Unit → Bool)
    (htol : k1 ≠ .set → k1 ≠ .add → tol (.error (.app (missErr k1))) = true) :
    (mcStore now w.l1 k1 c).2 = true ∨ tol (.error (.app (missErr k1))) = true := by
  cases hp with
  | set_set => exact .inl (by simp [mcStore])
  | add_add =>
    -- by the invariant, an `add` that succeeded on L2 succeeds on L1 as well
    left
    cases h1 : w.l1.look now c.key with
    | none => simp [mcStore, h1]
    | some a =>
      obtain ⟨b, hb, _⟩ := hinv c.key a h1
      simp [mcStore, hb] at hok
  | _ => exact .inr (htol nofun nofun)

theorem store_pair_refines (now : Nat) (w : World) (tk : List Bytes) (k k1 : SetKind) (hp : Pairing k k1) (c : SetCmd)
    (tol : HRes Unit → Bool) (htol : k1 ≠ .set → k1 ≠ .add → tol (.error (.app (missErr k1))) = true)
    (comp : Option (OProg (HRes Unit))) (hinv : CacheInv now w) :
    Refines now w (.store k c)
      ((twoTier (Std.store .l2 k c) (Std.store .l1 k1 c) tol comp (.stored k c.opq c.quiet)).eval now w tk) := by
  simp only [Std.store_eq_call]
  rw [Refines, spec_step_store, eval_twoTier_of now w tk _ _ tol comp _ true true (mc_exec_store ..)
    (fun h => decode_fail k (mcStore_refused h).2) (mc_exec_store ..) fun hok h1 =>
      ⟨decode_fail k1 (mcStore_refused h1).2, (hp.l1_ok now w c hinv hok tol htol).resolve_left (by simp [h1])⟩]
  cases hok : (mcStore now w.l2 k c).2 with
  | false => simpa [(mcStore_refused hok).1, Agrees] using hinv
  | true => simpa [Agrees] using inv_store now w k k1 c hp hinv hok

theorem L1L2.storeTol_miss (k : SetKind) (h1 : k ≠ .set) (h2 : k ≠ .add) :
    L1L2.storeTol k (.error (.app (missErr k))) = true := by
  cases k with
  | set => exact absurd rfl h1
  | add => exact absurd rfl h2
  | _ => rfl

theorem L1L2Batch.storeTol_miss (k : SetKind) :
    L1L2Batch.storeTol k (.error (.app (missErr (L1L2Batch.l1Kind k)))) = true := by
  cases k <;> rfl

theorem portStep_store_refines (now : Nat) (w : World) (tk : List Bytes) (p : Port) (k : SetKind) (c : SetCmd)
    (hinv : CacheInv now w) : Refines now w (.store k c) ((portStep p (.store k c)).eval now w tk) := by
  cases p with
  | main =>
    rw [show portStep .main (.store k c) = _ from L1L2.step_store _ _ k c]
    exact store_pair_refines now w tk k k (.self k) c _ (L1L2.storeTol_miss k) _ hinv
  | batch =>
    rw [show portStep .batch (.store k c) = _ from L1L2Batch.step_store _ _ k c]
    exact store_pair_refines now w tk k _ (.batch k) c _ (fun _ _ => L1L2Batch.storeTol_miss k) _ hinv

theorem portStep_delete_refines (now : Nat) (w : World) (tk : List Bytes) (p : Port) (c : KeyCmd) (hinv : CacheInv now w) :
    Refines now w (.delete c) ((portStep p (.delete c)).eval now w tk) := by
  simp only [portStep_delete, Std.handler, Std.simple_eq_call]
  rw [Refines, spec_step_delete, eval_twoTier_of now w tk _ _ _ none _ false false (mc_exec_delete ..)
    (fun _ => decode_notFound) (mc_exec_delete ..) fun _ _ => ⟨decode_notFound, rfl⟩]
  cases hok : (mcDelete now w.l2 c.key).2 with
  | false => simpa [mcDelete_miss hok, Agrees] using hinv
  | true => simpa [Agrees] using inv_delete now w c.key hinv

theorem portStep_touch_refines (now : Nat) (w : World) (tk : List Bytes) (p : Port) (c : KeyCmd) (hinv : CacheInv now w) :
    Refines now w (.touch c) ((portStep p (.touch c)).eval now w tk) := by
  simp only [portStep_touch, Std.handler, Std.simple_eq_call]
  rw [Refines, spec_step_touch, eval_twoTier_of now w tk _ _ _ none _ false false (mc_exec_touch ..)
    (fun _ => decode_notFound) (mc_exec_touch ..) fun _ _ => ⟨decode_notFound, rfl⟩]
  cases hok : (mcTouch now w.l2 c.key c.exptime).2 with
  | false => simpa [mcTouch_miss hok, Agrees] using hinv
  | true => simpa [Agrees] using inv_touch now w c.key c.exptime hinv

theorem Agrees.gat_hit (c : KeyCmd) {a b : Item} (hf : a.flags = b.flags) (hd : a.data = b.data) :
    Agrees (.gat c) (.gat (some (b.flags, b.data))) (.ok ()) [.resp (.gat (stdGatResp c (some a)))] :=
  ⟨rfl, _, rfl, rfl, rfl, rfl, hf, hd⟩

theorem Agrees.gat_miss (c : KeyCmd) : Agrees (.gat c) (.gat none) (.ok ()) [.resp (.gat (stdGatResp c none))] :=
  ⟨rfl, _, rfl, rfl, rfl, rfl⟩

theorem portStep_gat_refines (now : Nat) (w : World) (tk : List Bytes) (p : Port) (c : KeyCmd) (hinv : CacheInv now w) :
    Refines now w (.gat c) ((portStep p (.gat c)).eval now w tk) := by
  rw [Refines, spec_step_gat]
  cases p with
  | main =>
    rw [show portStep .main (.gat c) = L1L2.gat (Std.handler .l1) (Std.handler .l2) c from rfl, L1L2.eval_gat]
    cases h1 : w.l1.look now c.key with
    | some a =>
      obtain ⟨b, h2, hd, hf, _⟩ := hinv c.key a h1
      rw [h2]
      exact ⟨rfl, inv_touch now w c.key c.exptime hinv, .gat_hit c hf hd⟩
    | none =>
      cases h2 : w.l2.look now c.key with
      | none => exact ⟨by simp only [mcTouch, h2], hinv, .gat_miss c⟩
      | some b => exact ⟨rfl, inv_gat_fill now w c.key c.exptime b hinv h1 h2, .gat_hit c rfl rfl⟩
  | batch =>
    rw [show portStep .batch (.gat c) = L1L2Batch.gat (Std.handler .l1) (Std.handler .l2) c from rfl, L1L2Batch.eval_gat]
    cases h2 : w.l2.look now c.key with
    | none => exact ⟨by simp only [mcTouch, h2], hinv, .gat_miss c⟩
    | some b => exact ⟨rfl, inv_touch now w c.key c.exptime hinv, .gat_hit c rfl rfl⟩

def specView (now : Nat) (s : Store) (g : GetKey) : Bytes × Nat × Bool × Option (Nat × Bytes) :=
  (g.key, g.opq, g.quiet, (s.look now g.key).map fun it => (it.flags, it.data))

theorem viewOf_fwdResp (r : GetResp) : viewOf (fwdResp r) = viewOf r := rfl

theorem view_std (now : Nat) (s : Store) (e : Bool) (g : GetKey) :
    viewOf (stdGetResp now s e g) = specView now s g := by
  cases h : s.look now g.key <;> simp [viewOf, stdGetResp, specView, h]

theorem map_view_std (now : Nat) (s : Store) (e : Bool) (ks : List GetKey) :
    (ks.map (stdGetResp now s e)).map viewOf = ks.map (specView now s) := by
  rw [List.map_map]
  exact List.map_congr_left fun x _ => view_std now s e x

theorem specGets_map (now : Nat) (s : Store) (ks : List GetKey) :
    (specGets now s ks).map specViewOf = ks.map (specView now s) := by
  induction ks with
  | nil => rfl
  | cons g rest ih => simp [specGets, specViewOf, specView, ih]

theorem get_views_perm (now : Nat) (w : World) (hinv : CacheInv now w) (ks : List GetKey) (e : Bool) :
    (((ks.filter (l1Live now w.l1)).map (stdGetResp now w.l1 false) ++
        ((ks.filter (fun g => !l1Live now w.l1 g)).map (stdGetResp now w.l2 e)).map fwdResp).map viewOf).Perm
      ((specGets now w.l2 ks).map specViewOf) := by
  rw [specGets_map]
  have hits : ((ks.filter (l1Live now w.l1)).map (stdGetResp now w.l1 false)).map viewOf =
      (ks.filter (l1Live now w.l1)).map (specView now w.l2) := by
    rw [List.map_map]
    refine List.map_congr_left fun g hg => ?_
    -- by the invariant, what L1 answers for a key it serves is what L2 holds
    obtain ⟨a, h1⟩ := Option.isSome_iff_exists.mp (List.mem_filter.mp hg).2
    obtain ⟨b, hb, hd, hf, _⟩ := hinv g.key a h1
    simp [viewOf, stdGetResp, specView, h1, hb, hd, hf]
  rw [List.map_append, hits, List.map_map, List.map_map,
    show (viewOf ∘ fwdResp) ∘ stdGetResp now w.l2 e = specView now w.l2 from
      funext fun g => (viewOf_fwdResp _).trans (view_std now w.l2 e g),
    ← List.map_append]
  exact (List.filter_append_perm _ _).map _

theorem getVia_refines (now : Nat) (w : World) (tk : List Bytes) (g : GetCmd)
    (rest : List GetKey → Option HErr → OProg (HRes Unit)) (hinv : CacheInv now w)
    (hrest : ∀ ks, ∃ e w' tk', (rest ks none).eval now w tk =
        (.ok (), ((ks.map (stdGetResp now w.l2 e)).map fwdResp).map (fun r => OEv.resp (.get r)) ++
          [.resp (.getEnd g.noopOpaque g.noopEnd)], w', tk') ∧ w'.l2 = w.l2 ∧ CacheInv now w') :
    Refines now w (.get g) ((getVia (Std.handler .l1) g rest).eval now w tk) := by
  simp only [eval_getVia]
  split
  · next hemp =>
    refine ⟨rfl, hinv, rfl, _, rfl, ?_⟩
    have := get_views_perm now w hinv g.keys false
    rwa [List.isEmpty_iff.mp hemp, List.map_nil, List.map_nil, List.append_nil] at this
  · obtain ⟨e, w', tk', he, hl2, hi⟩ := hrest (g.keys.filter fun k => !l1Live now w.l1 k)
    rw [he]
    refine ⟨hl2, hi, rfl, _, ?_, get_views_perm now w hinv g.keys e⟩
    simp only [List.map_append, List.append_assoc]

theorem eval_backfill (now : Nat) (tk : List Bytes) : ∀ (ks : List GetKey) (w : World), CacheInv now w →
    ∃ w', (L1L2.backfill (Std.handler .l1) (ks.map (stdGetResp now w.l2 true))).eval now w tk =
        (.ok (), (ks.map (stdGetResp now w.l2 true)).map (fun r => OEv.resp (.get (fwdResp r))), w', tk) ∧
      w'.l2 = w.l2 ∧ CacheInv now w' := by
  intro ks
  induction ks with
  | nil => intro w hinv; exact ⟨w, by simp [L1L2.backfill], rfl, hinv⟩
  | cons g rest ih =>
    intro w hinv
    cases hb : w.l2.look now g.key with
    | none =>
      obtain ⟨w', he, hl2, hi⟩ := ih w hinv
      refine ⟨w', ?_, hl2, hi⟩
      simp only [List.map_cons, stdGetResp, hb, L1L2.backfill, if_true]
      simp [respond, Prog.eval_bind, he, fwdResp]
    | some b =>
      obtain ⟨w', he, hl2, hi⟩ := ih _ (inv_backfill_step now w g.key b hinv hb)
      refine ⟨w', ?_, by simpa using hl2, hi⟩
      simp only [List.map_cons, stdGetResp, hb, L1L2.backfill, Bool.false_eq_true, if_false]
      rw [eval_andThen_store]
      have hset : mcStore now w.l1 .set { key := g.key, flags := b.flags, exptime := remaining now b, data := b.data } =
          (w.l1.set g.key (some (backfillItem now b)), true) := by
        simp [mcStore, newItem, backfillItem]
      simp only [World.get_l1, hset, if_true]
      simp only [World.l2_put_l1] at he
      simp [respond, Prog.eval_bind, he, fwdResp]

theorem portStep_get_refines (now : Nat) (w : World) (tk : List Bytes) (p : Port) (g : GetCmd) (hinv : CacheInv now w) :
    Refines now w (.get g) ((portStep p (.get g)).eval now w tk) := by
  cases p with
  | main =>
    rw [show portStep .main (.get g) = _ from L1L2.get_eq _ _ g]
    refine getVia_refines now w tk g _ hinv fun ks => ?_
    obtain ⟨w', he, hl2, hi⟩ := eval_backfill now tk ks w hinv
    refine ⟨true, w', tk, ?_, hl2, hi⟩
    show (Std.getLoop .l2 .gete ks >>= _).eval now w tk = _
    rw [Prog.eval_bind, eval_std_getLoop_gete]
    simp only [World.get_l2, List.nil_append]
    rw [eval_andThen_ev he ⟨nofun, nofun⟩]
    simp [eval_reply, List.map_map, Function.comp_def]
  | batch =>
    rw [show portStep .batch (.get g) = _ from L1L2Batch.get_eq _ _ g]
    refine getVia_refines now w tk g _ hinv fun ks => ⟨false, w, tk, ?_, rfl, hinv⟩
    show (Std.getLoop .l2 .get ks >>= _).eval now w tk = _
    rw [Prog.eval_bind, eval_std_getLoop_get]
    simp only [World.get_l2, List.nil_append]
    rw [Prog.eval_bind, eval_emitGets_map]
    simp [eval_reply, fwdResp]

end Rend
