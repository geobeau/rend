/-
  Where the orchestrators' footprint theorem (OrcaFoot.lean) meets the scheduler's vocabulary
  (`Conc.KeyLocal`, Serial.lean): the hypothesis on a section's program that the serializability
  theorems for the two ports over pass-through handlers ask for.
-/
import Rend.Proofs.OrcaRefine
import Rend.Proofs.OrcaFoot
import Rend.Proofs.Serial

namespace Rend
open Conc

theorem portStep_keyLocal (p : Port) (c : Cmd) (k : Bytes) (h : cmdKey c = some k) :
    AllReqs (KeyLocal k) (portStep p c) := by
  have f : ∀ t, (Std.handler (ε := OEv) t).Foot KeyLocal := fun t => (Std.handler_foot t).mono fun _ _ _ h => Or.inl h.2
  cases p
  · exact L1L2.step_foot (f .l1) (f .l2) h
  · exact L1L2Batch.step_foot (f .l1) (f .l2) h

end Rend
