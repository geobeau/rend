/-
  The invariant of the two-tier deployments, "L1 is a faithful, never-outliving copy of L2", and
  the steps that keep it: time, L1 losses, the paired writes of the two tiers, the back-fill.
  A step that changes one key is checked at that key only (`CacheInv.of_key`).
-/
import Rend.Proofs.McOps

namespace Rend

def Outlives (b a : Item) : Prop := b.deadline = 0 ∨ (a.deadline ≠ 0 ∧ a.deadline ≤ b.deadline)

/-- Whenever L1 serves a key, L2 serves it too, with the same value and flags, at least as long. -/
def CacheInv (now : Nat) (w : World) : Prop :=
  ∀ k a, w.l1.look now k = some a →
    ∃ b, w.l2.look now k = some b ∧ a.data = b.data ∧ a.flags = b.flags ∧ Outlives b a

theorem CacheInv.empty (now : Nat) : CacheInv now {} :=
  fun k a ha => by simp [Store.look, Store.empty] at ha

theorem Outlives.live {a b : Item} {now : Nat} (h : Outlives b a) (ha : a.live now = true) : b.live now = true := by
  simp only [Outlives, Item.live, Bool.or_eq_true, beq_iff_eq, decide_eq_true_eq] at h ha ⊢
  omega

theorem Outlives.of_deadline_eq {a b : Item} (h : a.deadline = b.deadline) : Outlives b a := by
  unfold Outlives
  omega

theorem CacheInv.mono {now now' : Nat} {w : World} (h : CacheInv now w) (hle : now ≤ now') : CacheInv now' w := by
  intro k a ha
  obtain ⟨ha1, ha2⟩ := look_some.mp ha
  obtain ⟨b, hb, hd, hf, ho⟩ := h k a (look_some.mpr ⟨ha1, live_mono hle ha2⟩)
  exact ⟨b, look_some.mpr ⟨(look_some.mp hb).1, ho.live ha2⟩, hd, hf, ho⟩

def World.evict (w : World) (lost : Bytes → Bool) : World :=
  { w with l1 := fun k => if lost k then none else w.l1 k }

theorem CacheInv.evict {now : Nat} {w : World} (h : CacheInv now w) (lost : Bytes → Bool) : CacheInv now (w.evict lost) := by
  intro k a ha
  apply h k a
  obtain ⟨ha1, ha2⟩ := look_some.mp ha
  simp only [World.evict] at ha1
  split at ha1
  · simp at ha1
  · exact look_some.mpr ⟨ha1, ha2⟩

-- `CacheInv` at one key, in the namespace and under the names that the concurrency proofs state their theorems with.
namespace Conc

def CacheInvAt (now : Nat) (w : World) (k : Bytes) : Prop :=
  ∀ a, w.l1.look now k = some a →
    ∃ b, w.l2.look now k = some b ∧ a.data = b.data ∧ a.flags = b.flags ∧ Outlives b a

theorem cacheInv_iff (now : Nat) (w : World) : CacheInv now w ↔ ∀ k, CacheInvAt now w k := Iff.rfl

variable {now : Nat} {w : World} {k : Bytes}

theorem CacheInvAt.of_l1_none (h : w.l1.look now k = none) : CacheInvAt now w k :=
  fun _ ha => nomatch h.symm.trans ha

theorem CacheInvAt.of_entries {a b : Item} (h1 : w.l1 k = some a) (h2 : w.l2 k = some b) (hd : a.data = b.data)
    (hf : a.flags = b.flags) (ho : Outlives b a) : CacheInvAt now w k := by
  intro a' ha'
  obtain ⟨ha, hl⟩ := look_some.mp ha'
  cases h1.symm.trans ha
  exact ⟨b, look_some.mpr ⟨h2, ho.live hl⟩, hd, hf, ho⟩

end Conc

theorem CacheInv.of_key {now : Nat} {w w' : World} (h : CacheInv now w) (key : Bytes)
    (h1 : ∀ k, k ≠ key → w'.l1.look now k = w.l1.look now k) (h2 : ∀ k, k ≠ key → w'.l2.look now k = w.l2.look now k)
    (hkey : Conc.CacheInvAt now w' key) : CacheInv now w' := by
  intro k a ha
  by_cases hk : k = key
  · exact hk ▸ hkey a (hk ▸ ha)
  · rw [h1 k hk] at ha
    rw [h2 k hk]
    exact h k a ha

theorem CacheInv.of_l1_single {now : Nat} {w : World} {key : Bytes} (hkey : Conc.CacheInvAt now w key)
    (h1 : ∀ k, k ≠ key → w.l1 k = none) : CacheInv now w := by
  intro k
  by_cases hk : k = key
  · exact hk ▸ hkey
  · exact Conc.CacheInvAt.of_l1_none (look_none.mpr fun it hit => nomatch (h1 k hk).symm.trans hit)

/-- Which L1 operation accompanies which L2 operation (main port and batch port). -/
inductive Pairing : SetKind → SetKind → Prop where
  | set_set : Pairing .set .set
  | set_replace : Pairing .set .replace
  | add_add : Pairing .add .add
  | add_replace : Pairing .add .replace
  | replace_replace : Pairing .replace .replace
  | append_append : Pairing .append .append
  | prepend_prepend : Pairing .prepend .prepend

theorem inv_store (now : Nat) (w : World) (k k1 : SetKind) (c : SetCmd) (hp : Pairing k k1)
    (hinv : CacheInv now w) (hok : (mcStore now w.l2 k c).2 = true) :
    CacheInv now { l1 := (mcStore now w.l1 k1 c).1, l2 := (mcStore now w.l2 k c).1 } := by
  refine hinv.of_key c.key (fun _ hk => mcStore_other now _ k1 c _ hk) (fun _ hk => mcStore_other now _ k c _ hk) ?_
  cases h1 : w.l1.look now c.key with
  | none =>
    -- L1 does not serve the key: `set` and `add` give it the item L2 gets, the others leave it alone
    cases hp with
    | set_set =>
      simp only [mcStore]
      exact .of_entries (Store.set_same ..) (Store.set_same ..) rfl rfl (.of_deadline_eq rfl)
    | add_add =>
      cases h2 : w.l2.look now c.key with
      | some b => simp [mcStore, h2] at hok
      | none =>
        simp only [mcStore, h1, h2]
        exact .of_entries (Store.set_same ..) (Store.set_same ..) rfl rfl (.of_deadline_eq rfl)
    | _ => exact .of_l1_none (by simp only [mcStore, h1])
  | some a =>
    -- L1 serves the key, so L2 does, which rules `add` out: both get the new item, or both items the same piece
    obtain ⟨b, hb, hd, hf, ho⟩ := hinv c.key a h1
    cases hp with
    | add_add | add_replace => simp [mcStore, hb] at hok
    | append_append | prepend_prepend =>
      simp only [mcStore, h1, hb]
      exact .of_entries (Store.set_same ..) (Store.set_same ..) (by simp only [hd]) hf ho
    | _ =>
      simp only [mcStore, h1, hb]
      exact .of_entries (Store.set_same ..) (Store.set_same ..) rfl rfl (.of_deadline_eq rfl)

theorem inv_delete (now : Nat) (w : World) (key : Bytes) (hinv : CacheInv now w) :
    CacheInv now { l1 := (mcDelete now w.l1 key).1, l2 := (mcDelete now w.l2 key).1 } :=
  hinv.of_key key (fun _ hk => mcDelete_other now _ key _ hk) (fun _ hk => mcDelete_other now _ key _ hk)
    (.of_l1_none (mcDelete_look now w.l1 key))

/-- A `Set` whose refused L1 write was made up for by deleting the L1 entry. -/
theorem inv_set_compensated (now : Nat) (w : World) (c : SetCmd) (hinv : CacheInv now w) :
    CacheInv now { l1 := (mcDelete now w.l1 c.key).1, l2 := (mcStore now w.l2 .set c).1 } :=
  hinv.of_key c.key (fun _ hk => mcDelete_other now _ c.key _ hk) (fun _ hk => mcStore_other now _ .set c _ hk)
    (.of_l1_none (mcDelete_look now w.l1 c.key))

theorem inv_touch (now : Nat) (w : World) (key : Bytes) (e : Nat) (hinv : CacheInv now w) :
    CacheInv now { l1 := (mcTouch now w.l1 key e).1, l2 := (mcTouch now w.l2 key e).1 } := by
  refine hinv.of_key key (fun _ hk => mcTouch_other now _ key _ e hk) (fun _ hk => mcTouch_other now _ key _ e hk) ?_
  cases h1 : w.l1.look now key with
  | none => exact .of_l1_none (by simp only [mcTouch, h1])
  | some a =>
    obtain ⟨b, hb, hd, hf, _⟩ := hinv key a h1
    simp only [mcTouch, h1, hb]
    exact .of_entries (Store.set_same ..) (Store.set_same ..) hd hf (.of_deadline_eq rfl)

theorem inv_gat_fill (now : Nat) (w : World) (key : Bytes) (e : Nat) (b : Item) (hinv : CacheInv now w)
    (h1 : w.l1.look now key = none) (h2 : w.l2.look now key = some b) :
    CacheInv now { l1 := (mcStore now w.l1 .add { key := key, exptime := e, flags := b.flags, data := b.data }).1,
                   l2 := (mcTouch now w.l2 key e).1 } := by
  refine hinv.of_key key (fun _ hk => mcStore_other now _ .add _ _ hk) (fun _ hk => mcTouch_other now _ key _ e hk) ?_
  simp only [mcStore, h1, mcTouch, h2]
  exact .of_entries (Store.set_same ..) (Store.set_same ..) rfl rfl (.of_deadline_eq rfl)

/-- The L1 copy written by a back-filling get: L2's value with L2's remaining lifetime. -/
def backfillItem (now : Nat) (b : Item) : Item := ⟨b.data, b.flags, deadlineOf now (remaining now b)⟩

theorem backfill_deadline_within (now : Nat) (b : Item) (hb : b.live now = true)
    (h : remaining now b ≤ Gen.chunked_realTimeMaxDelta) : (backfillItem now b).deadline = b.deadline := by
  by_cases hz : b.deadline = 0
  · simp only [backfillItem, remaining, deadlineOf, hz, if_true]
  · have hlt : now < b.deadline := by simpa [Item.live, hz] using hb
    have hne : b.deadline - now ≠ 0 := by omega
    simp only [remaining, hz, if_false] at h
    simp only [backfillItem, remaining, deadlineOf, hz, hne, h, if_false, if_true]
    omega

/-- Finding D22: with more than `realTimeMaxDelta` (30 days) left, the remaining lifetime, sent as a
    relative expiry, is read as an absolute time: it is the copy's deadline, whatever L2's is. -/
theorem backfill_deadline_beyond (now : Nat) (b : Item) (h : Gen.chunked_realTimeMaxDelta < remaining now b) :
    (backfillItem now b).deadline = remaining now b := by
  have hne : remaining now b ≠ 0 := by omega
  simp only [backfillItem, deadlineOf, hne, if_false, Nat.not_le.mpr h]

theorem backfill_outlives (now : Nat) (b : Item) (hb : b.live now = true) : Outlives b (backfillItem now b) := by
  by_cases h : remaining now b ≤ Gen.chunked_realTimeMaxDelta
  · exact .of_deadline_eq (backfill_deadline_within now b hb h)
  · refine .inr ?_
    rw [backfill_deadline_beyond now b (Nat.not_le.mp h)]
    exact ⟨by omega, remaining_le now b⟩

theorem inv_backfill_step (now : Nat) (w : World) (key : Bytes) (b : Item) (hinv : CacheInv now w)
    (hb : w.l2.look now key = some b) :
    CacheInv now (w.put .l1 (w.l1.set key (some (backfillItem now b)))) :=
  hinv.of_key key (fun _ hk => Store.look_set_other _ _ _ _ _ hk) (fun _ _ => rfl)
    (.of_entries (Store.set_same ..) (look_some.mp hb).1 rfl rfl (backfill_outlives now b (look_some.mp hb).2))

end Rend
