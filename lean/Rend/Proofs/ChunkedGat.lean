/-
  Get-and-touch through the chunked handler in closed form (`eval_gat`): the answer is that of a get
  (`readKey` of the store before), and after the `gat` of the metadata entry only deadlines of chunk
  entries move (`ChunksRetimed`).  Finding D7 is read off it: `gat_keeps_recorded_expiry`.
-/
import Rend.Proofs.ChunkedRead
import Rend.Proofs.ChunkedWrite

namespace Rend.Chunked
open Rend
variable {ε : Type}

/-- `s'` arises from `s` by moving deadlines of chunk entries of `key`.  Written as the induction principle
    of that closure, not as an `inductive`: a consumer (`Consistent.chunksRetimed`, `gat_keeps_recorded_expiry`)
    puts its property in for `I` and is done, where an inductive closure would ask it for an induction. -/
def ChunksRetimed (key : Bytes) (s s' : Store) : Prop :=
  ∀ I : Store → Prop, (∀ s j it d, s (chunkKey key j) = some it → I s → I (s.set (chunkKey key j) (some { it with deadline := d }))) →
    I s → I s'

theorem eval_askChunks_gatq (now : Nat) (t : Tier) (key : Bytes) (e : Nat) (tk : List Bytes) :
    ∀ (n i : Nat) (w : World), ∃ w',
      (askChunks (ε := ε) t .gatq key e n i).eval now w tk =
        ((presentItems now (w.get t) key n i).map (fun it => Resp.hit it.flags 0 it.data), [], w', tk) ∧
      ChunksRetimed key (w.get t) (w'.get t)
  | 0, _, w => ⟨w, rfl, fun _ _ h => h⟩
  | n + 1, i, w => by
    cases hl : (w.get t).look now (chunkKey key i) with
    | none =>
      obtain ⟨w', h1, h2⟩ := eval_askChunks_gatq now t key e tk n (i + 1) w
      refine ⟨w', ?_, h2⟩
      simp [askChunks, Prog.eval_bind, Mc.exec, hl, presentItems, h1]
    | some it =>
      obtain ⟨w', h1, h2⟩ := eval_askChunks_gatq now t key e tk n (i + 1)
        (w.put t ((w.get t).set (chunkKey key i) (some { it with deadline := deadlineOf now e })))
      rw [World.get_put_same] at h1 h2
      -- the later answers do not see the moved deadline of chunk `i`
      rw [presentItems_congr now (w.get t) _ key n (i + 1) fun j hj _ =>
        Store.look_set_other _ _ _ _ _ fun he => by have := (chunkKey_inj _ _ _ _ he).2; omega] at h1
      refine ⟨w', ?_, fun I hI h0 => h2 I hI (hI _ i it _ (look_some.mp hl).1 h0)⟩
      simp [askChunks, Prog.eval_bind, Mc.exec, hl, presentItems, h1]

theorem eval_gat (now : Nat) (t : Tier) (c : KeyCmd) (w : World) (tk : List Bytes) :
    ∃ w', (Chunked.gat (ε := ε) t c).eval now w tk =
        (.ok (respOf c.key c.opq false (readKey now (w.get t) c.key)), [], w', tk) ∧
      ChunksRetimed c.key (Mc.exec now (w.get t) { op := .gat, key := metaKey c.key, exptime := c.exptime }).1 (w'.get t) := by
  simp only [Chunked.gat, Prog.eval_bind, Prog.eval_req, Mc.exec, readKey]
  cases hl : (w.get t).look now (metaKey c.key) with
  | none => exact ⟨w, by simp [metaOf, decode_notFound, respOf], fun _ _ h => h⟩
  | some it =>
    obtain ⟨w', h1, h2⟩ := eval_askChunks_gatq (ε := ε) now t c.key c.exptime tk (decodeMeta it.data).numChunks 0
      (w.put t ((w.get t).set (metaKey c.key) (some { it with deadline := deadlineOf now c.exptime })))
    rw [World.get_put_same] at h1 h2
    rw [presentItems_congr now (w.get t) _ c.key _ 0 fun j _ _ =>
      Store.look_set_other _ _ _ _ _ (metaKey_ne_chunkKey _ _ _).symm] at h1
    refine ⟨w', ?_, h2⟩
    simp only [metaOf, Prog.eval_bind, eval_readChunks_of h1, Option.map_some]
    rcases readResult_cases (decodeMeta it.data) (presentItems now (w.get t) c.key (decodeMeta it.data).numChunks 0)
      with hr | ⟨d, hr⟩ <;> simp [hr, respOf]

theorem Consistent.chunksRetimed {s s' : Store} {H : List Intent} {key : Bytes} (hc : Consistent s H)
    (h : ChunksRetimed key s s') : Consistent s' H :=
  h (Consistent · H) (fun _ _ it _ hs hc => hc.retime _ it hs _ _) hc

/-- Finding D7 in the model: get-and-touch moves the DEADLINE of the metadata entry but leaves its
    bytes, among them the expiry recorded inside the metadata, which append / prepend later re-store
    the value with, as they were. -/
theorem gat_keeps_recorded_expiry (now : Nat) (t : Tier) (c : KeyCmd) (w : World) (tk : List Bytes)
    (it : Item) (h : (w.get t).look now (metaKey c.key) = some it) :
    (((Chunked.gat (ε := ε) t c).eval now w tk).2.2.1.get t) (metaKey c.key) =
      some { it with deadline := deadlineOf now c.exptime } := by
  obtain ⟨w', he, hw⟩ := eval_gat (ε := ε) now t c w tk
  rw [he]
  refine hw (· (metaKey c.key) = _) (fun s j _ _ _ hs => ?_) (by simp [Mc.exec, h, Store.set])
  simpa [Store.set, metaKey_ne_chunkKey] using hs

end Rend.Chunked
