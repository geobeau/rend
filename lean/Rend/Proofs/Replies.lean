/-
  What an orchestrator call tells the client, for every behaviour of the backends: responder
  calls only, and those related to its result as the reply discipline `Disc` says.  One statement,
  `OrcaKind.step_replies`, proved by one traversal of each orchestrator; the reply discipline
  (C08), "responder events only" and "no lock events" (C12) are read off it.
-/
import Rend.Proofs.Runs

-- The notions the theorems of Props/C08 are stated with (`resps`, `Disc`, `Shape`) are defined here, under
-- the names those statements use.
namespace Rend.Props.C08
open Rend

def resps : List OEv → List REv
  | [] => []
  | .resp r :: es => r :: resps es
  | _ :: es => resps es

theorem resps_append (a b : List OEv) : resps (a ++ b) = resps a ++ resps b := by
  induction a with
  | nil => rfl
  | cons e es ih => cases e <;> simp [resps, ih]

theorem resps_acquire (s : Nat) (r : Bool) (es : List OEv) : resps (.acquire s r :: es) = resps es := rfl
theorem resps_release (s : Nat) (r : Bool) (es : List OEv) : resps (.release s r :: es) = resps es := rfl

def isGet : REv → Bool
  | .get _ => true
  | _ => false

def isGetE : REv → Bool
  | .getE _ => true
  | _ => false

def Disc (c : Cmd) (res : HRes Unit) (rs : List REv) : Prop :=
  match c with
  | .store k sc => (res = .ok () ∧ rs = [.stored k sc.opq sc.quiet]) ∨ (res ≠ .ok () ∧ rs = [])
  | .delete kc => (res = .ok () ∧ rs = [.deleted kc.opq]) ∨ (res ≠ .ok () ∧ rs = [])
  | .touch kc => (res = .ok () ∧ rs = [.touched kc.opq]) ∨ (res ≠ .ok () ∧ rs = [])
  | .gat _ => (res = .ok () ∧ ∃ r, rs = [.gat r]) ∨ (res ≠ .ok () ∧ rs = [])
  | .get g => ∃ gs, (∀ e ∈ gs, isGet e = true) ∧
      ((res = .ok () ∧ rs = gs ++ [.getEnd g.noopOpaque g.noopEnd]) ∨ (res ≠ .ok () ∧ rs = gs))
  | .getE g => ∃ gs, (∀ e ∈ gs, isGetE e = true) ∧
      ((res = .ok () ∧ rs = gs ++ [.getEnd g.noopOpaque g.noopEnd]) ∨ (res ≠ .ok () ∧ rs = gs))
  | .noop o => res = .ok () ∧ rs = [.noop o]
  | .quit o q => res = .ok () ∧ rs = [.quit o q]
  | .version o => res = .ok () ∧ rs = [.version o]
  | .stat o => res = .ok () ∧ rs = [.stat o]
  | .unknown => res ≠ .ok () ∧ rs = []

structure Shape (P : HRes Unit → List REv → Prop) (p : OProg (HRes Unit)) : Prop where
  out : ∀ res es, Runs p res es → P res (resps es)

theorem disc_get_prepend (g : GetCmd) (res : HRes Unit) (pre rs : List REv) (hpre : ∀ e ∈ pre, isGet e = true)
    (h : Disc (.get g) res rs) : Disc (.get g) res (pre ++ rs) := by
  obtain ⟨gs, hgs, h⟩ := h
  refine ⟨pre ++ gs, ?_, ?_⟩
  · intro e he
    rcases List.mem_append.mp he with he | he
    · exact hpre e he
    · exact hgs e he
  · rcases h with ⟨h1, h2⟩ | ⟨h1, h2⟩
    · exact Or.inl ⟨h1, by rw [h2]; simp⟩
    · exact Or.inr ⟨h1, by rw [h2]⟩

theorem map_get_isGet (rs : List GetResp) : ∀ e ∈ rs.map REv.get, isGet e = true :=
  List.forall_mem_map.mpr fun _ _ => rfl

theorem map_getE_isGetE (rs : List GetResp) : ∀ e ∈ rs.map REv.getE, isGetE e = true :=
  List.forall_mem_map.mpr fun _ _ => rfl

end Rend.Props.C08

namespace Rend
open Props.C08

namespace Prog.Always
variable {Q : HRes Unit → List OEv → Prop}

theorem reply {e : REv} (h : Q (.ok ()) [.resp e]) : (Rend.reply e).Always Q :=
  outThen (pure h)

theorem andThen {α β : Type} {p : OProg (HRes α)} {k : HRes α → OProg (HRes β)} {Q : HRes β → List OEv → Prop}
    (hp : Silent p) (h1 : Q (.error .panic) []) (h2 : Q (.error .crash) []) (hk : ∀ r, (k r).Always Q) :
    (Rend.andThen p k).Always Q := by
  unfold Rend.andThen
  refine bindSilent hp fun r => ?_
  split
  · exact pure h1
  · exact pure h2
  · exact hk r

theorem ackOr {tol : HRes Unit → Bool} {comp : Option (OProg (HRes Unit))} {ev : REv}
    (hc : ∀ d, comp = some d → Silent d) (herr : ∀ e, Q (.error e) []) (hack : Q (.ok ()) [.resp ev]) (r1 : HRes Unit) :
    (Rend.ackOr tol comp ev r1).Always Q := by
  unfold Rend.ackOr
  split
  · exact reply hack
  · cases r1 with
    | ok u => exact reply hack
    | error e =>
      cases comp with
      | none => exact pure (herr e)
      | some d => exact andThen (hc d rfl) (herr _) (herr _) fun _ => reply hack

theorem twoTier {op2 op1 : OProg (HRes Unit)} {tol : HRes Unit → Bool} {comp : Option (OProg (HRes Unit))} {ev : REv}
    (h2 : Silent op2) (h1 : Silent op1) (hc : ∀ d, comp = some d → Silent d)
    (herr : ∀ e, Q (.error e) []) (hack : Q (.ok ()) [.resp ev]) : (Rend.twoTier op2 op1 tol comp ev).Always Q := by
  refine andThen h2 (herr _) (herr _) fun r2 => ?_
  cases r2 with
  | error e => exact pure (herr e)
  | ok u => exact andThen h1 (herr _) (herr _) (ackOr hc herr hack)

theorem oneTier {op : OProg (HRes Unit)} {ev : REv} (h : Silent op) (herr : ∀ e, Q (.error e) [])
    (hack : Q (.ok ()) [.resp ev]) : (Rend.oneTier op ev).Always Q :=
  andThen h (herr _) (herr _) fun r => by
    cases r with
    | ok u => exact reply hack
    | error e => exact pure (herr e)

end Prog.Always

def Replies (c : Cmd) (res : HRes Unit) (es : List OEv) : Prop := ∃ rs, es = rs.map .resp ∧ Disc c res rs

theorem Replies.nil {c : Cmd} {res : HRes Unit} (h : Disc c res []) : Replies c res [] := ⟨[], rfl, h⟩

theorem Replies.one {c : Cmd} {res : HRes Unit} {e : REv} (h : Disc c res [e]) : Replies c res [.resp e] :=
  ⟨[e], rfl, h⟩

theorem resps_map_resp (rs : List REv) : resps (rs.map .resp) = rs := by
  induction rs with
  | nil => rfl
  | cons r rs ih => simp [resps, ih]

theorem Replies.shape {c : Cmd} {p : OProg (HRes Unit)} (h : p.Always (Replies c)) : Shape (Disc c) p :=
  ⟨h.mono fun _ _ ⟨rs, he, hd⟩ => by rwa [he, resps_map_resp]⟩

theorem OrcaKind.step_simpleCmd {c : Cmd} {p : OProg (HRes Unit)} (h : simpleCmd c = some p) (o : OrcaKind)
    (h1 h2 : Handler OEv) : o.step h1 h2 c = p := by
  cases c <;> cases h <;> cases o <;> rfl

theorem simpleCmd_replies {c : Cmd} {p : OProg (HRes Unit)} (h : simpleCmd c = some p) : p.Always (Replies c) := by
  cases c <;> cases h
  · exact .reply (.one ⟨rfl, rfl⟩)
  · exact .reply (.one ⟨rfl, rfl⟩)
  · exact .reply (.one ⟨rfl, rfl⟩)
  · exact .reply (.one ⟨rfl, rfl⟩)
  · exact .pure (.nil ⟨nofun, rfl⟩)

theorem Replies.failed {c : Cmd} (hc : simpleCmd c = none) (e : HErr) : Replies c (.error e) [] := by
  cases c with
  | store _ _ | delete _ | touch _ | gat _ => exact .nil (.inr ⟨nofun, rfl⟩)
  -- `nomatch` on the membership in `[]` (also in `get_end`): `nofun` is slow to elaborate there
  | get _ | getE _ => exact .nil ⟨[], (fun _ h => nomatch h), .inr ⟨nofun, rfl⟩⟩
  | noop _ | quit _ _ | version _ | stat _ | unknown => cases hc

theorem Replies.store_ack (k : SetKind) (sc : SetCmd) :
    Replies (.store k sc) (.ok ()) [.resp (.stored k sc.opq sc.quiet)] :=
  .one (.inl ⟨rfl, rfl⟩)

theorem Replies.delete_ack (k : KeyCmd) : Replies (.delete k) (.ok ()) [.resp (.deleted k.opq)] := .one (.inl ⟨rfl, rfl⟩)

theorem Replies.touch_ack (k : KeyCmd) : Replies (.touch k) (.ok ()) [.resp (.touched k.opq)] := .one (.inl ⟨rfl, rfl⟩)

theorem Replies.gat_ack (k : KeyCmd) (r : GetResp) : Replies (.gat k) (.ok ()) [.resp (.gat r)] :=
  .one (.inl ⟨rfl, r, rfl⟩)

theorem Replies.get_end (g : GetCmd) : Replies (.get g) (.ok ()) [.resp (.getEnd g.noopOpaque g.noopEnd)] :=
  .one ⟨[], (fun _ h => nomatch h), .inl ⟨rfl, rfl⟩⟩

theorem Replies.get_prepend {g : GetCmd} {res : HRes Unit} {es : List OEv} (gs : List GetResp)
    (h : Replies (.get g) res es) : Replies (.get g) res (gs.map (fun r => .resp (.get r)) ++ es) := by
  obtain ⟨rs, rfl, h⟩ := h
  exact ⟨gs.map .get ++ rs, by simp [List.map_map, Function.comp_def], disc_get_prepend g res _ rs (map_get_isGet gs) h⟩

theorem emitGets_always : ∀ rs : List GetResp, (emitGets rs).Always fun _ es => es = rs.map fun r => .resp (.get r)
  | [] => .pure rfl
  | _ :: rs => .outThen ((emitGets_always rs).mono fun _ _ h => congrArg (_ :: ·) h)

theorem emitGetEs_always : ∀ rs : List GetResp, (emitGetEs rs).Always fun _ es => es = rs.map fun r => .resp (.getE r)
  | [] => .pure rfl
  | _ :: rs => .outThen ((emitGetEs_always rs).mono fun _ _ h => congrArg (_ :: ·) h)

theorem Prog.Always.getsThen {g : GetCmd} {p : OProg (HRes Unit)} (rs : List GetResp) (hp : p.Always (Replies (.get g))) :
    (emitGets rs >>= fun _ => p).Always (Replies (.get g)) :=
  .bind (emitGets_always rs) fun _ _ h => by
    subst h
    exact hp.mono fun _ _ => Replies.get_prepend rs

theorem get_tail_replies (g : GetCmd) (err : Option HErr) :
    (match err with
      | none => reply (.getEnd g.noopOpaque g.noopEnd)
      | some e => pure (.error e) : OProg (HRes Unit)).Always (Replies (.get g)) := by
  cases err with
  | none => exact .reply (.get_end g)
  | some e => exact .pure (.failed rfl e)

theorem L1L2.backfill_gets (h1 : Handler OEv) (hs1 : SilentHandler h1) : ∀ rs : List GetResp,
    (L1L2.backfill h1 rs).Always fun _ es => ∃ gs : List GetResp, es = gs.map fun r => .resp (.get r)
  | [] => .pure ⟨[], rfl⟩
  | r :: rs => by
    unfold L1L2.backfill
    extract_lets fwd
    have hfwd : fwd.Always fun _ es => ∃ gs : List GetResp, es = gs.map fun r => .resp (.get r) :=
      .outThen ((L1L2.backfill_gets h1 hs1 rs).mono fun _ _ ⟨gs, h⟩ => ⟨_ :: gs, congrArg (_ :: ·) h⟩)
    split
    · exact hfwd
    · refine .andThen (hs1.store _ _) ⟨[], rfl⟩ ⟨[], rfl⟩ fun s => ?_
      split
      · exact hfwd
      · exact .andThen (hs1.delete _) ⟨[], rfl⟩ ⟨[], rfl⟩ fun _ => hfwd

theorem Prog.Always.getVia {h1 : Handler OEv} (hs1 : SilentHandler h1) (g : GetCmd)
    {rest : List GetKey → Option HErr → OProg (HRes Unit)} (hrest : ∀ ks err, (rest ks err).Always (Replies (.get g))) :
    (Rend.getVia h1 g rest).Always (Replies (.get g)) := by
  unfold Rend.getVia
  refine .bindSilent (hs1.get _) fun ⟨rs1, err1⟩ => ?_
  dsimp only
  refine .getsThen _ ?_
  split
  · cases err1 with
    | none => exact .reply (.get_end g)
    | some e => exact .pure (.failed rfl e)
  · exact hrest _ _

theorem L1L2.get_replies (h1 h2 : Handler OEv) (hs1 : SilentHandler h1) (hs2 : SilentHandler h2) (g : GetCmd) :
    (L1L2.get h1 h2 g).Always (Replies (.get g)) := by
  rw [L1L2.get_eq]
  refine .getVia hs1 g fun l2keys err1 => ?_
  refine .bindSilent (hs2.getE _) fun ⟨rs2, err2⟩ => ?_
  unfold andThen
  refine .bind (L1L2.backfill_gets h1 hs1 rs2) fun r _ ⟨gs, h⟩ => ?_
  subst h
  split
  · exact .pure (by simpa using Replies.get_prepend gs (.failed rfl _))
  · exact .pure (by simpa using Replies.get_prepend gs (.failed rfl _))
  · exact (get_tail_replies g _).mono fun _ _ => Replies.get_prepend gs

theorem L1L2Batch.get_replies (h1 h2 : Handler OEv) (hs1 : SilentHandler h1) (hs2 : SilentHandler h2) (g : GetCmd) :
    (L1L2Batch.get h1 h2 g).Always (Replies (.get g)) := by
  rw [L1L2Batch.get_eq]
  refine .getVia hs1 g fun l2keys err1 => ?_
  refine .bindSilent (hs2.get _) fun ⟨rs2, err2⟩ => ?_
  exact .getsThen _ (get_tail_replies g _)

theorem setComp_silent {h1 : Handler OEv} (hs1 : SilentHandler h1) (k : SetKind) (c : SetCmd) (d : OProg (HRes Unit))
    (h : setComp h1 k c = some d) : Silent d := by
  cases k <;> cases h
  exact hs1.delete _

theorem L1L2.step_replies (h1 h2 : Handler OEv) (hs1 : SilentHandler h1) (hs2 : SilentHandler h2) (c : Cmd)
    (hc : simpleCmd c = none) : (L1L2.step h1 h2 c).Always (Replies c) := by
  have nocomp : ∀ d, (none : Option (OProg (HRes Unit))) = some d → Silent d := nofun
  have herr := Replies.failed hc
  cases c with
  | store k sc =>
    exact step_store h1 h2 k sc ▸ .twoTier (hs2.store _ _) (hs1.store _ _) (setComp_silent hs1 k sc) herr (.store_ack k sc)
  | delete k => exact step_delete h1 h2 k ▸ .twoTier (hs2.delete _) (hs1.delete _) nocomp herr (.delete_ack k)
  | touch k => exact step_touch h1 h2 k ▸ .twoTier (hs2.touch _) (hs1.touch _) nocomp herr (.touch_ack k)
  | get g => exact L1L2.get_replies h1 h2 hs1 hs2 g
  | getE g => exact .pure (herr _)
  | gat k =>
    refine .andThen (hs1.gat _) (herr _) (herr _) fun r1 => ?_
    cases r1 with
    | error e => exact .pure (herr e)
    | ok res1 =>
      dsimp only
      split
      · refine .andThen (hs2.gat _) (herr _) (herr _) fun r2 => ?_
        cases r2 with
        | error e => exact .pure (herr e)
        | ok res2 =>
          dsimp only
          split
          · exact .reply (.gat_ack k _)
          · exact .andThen (hs1.store _ _) (herr _) (herr _)
              (.ackOr (tol := (isErr · .keyExists)) nocomp herr (.gat_ack k _))
      · refine .andThen (hs2.touch _) (herr _) (herr _) fun t => ?_
        cases t with
        | error e => exact .pure (herr e)
        | ok u => exact .reply (.gat_ack k _)
  | noop _ | quit _ _ | version _ | stat _ | unknown => cases hc

theorem L1L2Batch.step_replies (h1 h2 : Handler OEv) (hs1 : SilentHandler h1) (hs2 : SilentHandler h2) (c : Cmd)
    (hc : simpleCmd c = none) : (L1L2Batch.step h1 h2 c).Always (Replies c) := by
  have nocomp : ∀ d, (none : Option (OProg (HRes Unit))) = some d → Silent d := nofun
  have herr := Replies.failed hc
  cases c with
  | store k sc =>
    exact step_store h1 h2 k sc ▸ .twoTier (hs2.store _ _) (hs1.store _ _) (setComp_silent hs1 k sc) herr (.store_ack k sc)
  | delete k => exact step_delete h1 h2 k ▸ .twoTier (hs2.delete _) (hs1.delete _) nocomp herr (.delete_ack k)
  | touch k => exact step_touch h1 h2 k ▸ .twoTier (hs2.touch _) (hs1.touch _) nocomp herr (.touch_ack k)
  | get g => exact L1L2Batch.get_replies h1 h2 hs1 hs2 g
  | getE g => exact .pure (herr _)
  | gat k =>
    refine .andThen (hs2.gat _) (herr _) (herr _) fun r2 => ?_
    cases r2 with
    | error e => exact .pure (herr e)
    | ok res =>
      dsimp only
      split
      · exact .reply (.gat_ack k _)
      · exact .andThen (hs1.touch _) (herr _) (herr _)
          (.ackOr (tol := (isErr · .keyNotFound)) nocomp herr (.gat_ack k _))
  | noop _ | quit _ _ | version _ | stat _ | unknown => cases hc

theorem L1Only.step_replies (h1 : Handler OEv) (hs1 : SilentHandler h1) (c : Cmd) (hc : simpleCmd c = none) :
    (L1Only.step h1 c).Always (Replies c) := by
  have herr := Replies.failed hc
  cases c with
  | store k sc => exact step_store h1 k sc ▸ .oneTier (hs1.store _ _) herr (.store_ack k sc)
  | delete k => exact step_delete h1 k ▸ .oneTier (hs1.delete _) herr (.delete_ack k)
  | touch k => exact step_touch h1 k ▸ .oneTier (hs1.touch _) herr (.touch_ack k)
  | gat k =>
    refine .andThen (hs1.gat _) (herr _) (herr _) fun r => ?_
    cases r with
    | ok res => exact .reply (.gat_ack k res)
    | error e => exact .pure (herr e)
  | get g =>
    refine .bindSilent (hs1.get _) fun ⟨rs, err⟩ => ?_
    exact .getsThen _ (get_tail_replies g _)
  | getE g =>
    refine .bindSilent (hs1.getE _) fun ⟨rs, err⟩ => ?_
    refine .bind (emitGetEs_always rs) fun _ _ h => ?_
    subst h
    cases err with
    | none =>
      exact .reply ⟨rs.map .getE ++ [_], by simp [List.map_map, Function.comp_def], rs.map .getE, map_getE_isGetE rs,
        .inl ⟨rfl, rfl⟩⟩
    | some e =>
      exact .pure ⟨rs.map .getE, by simp [List.map_map, Function.comp_def], rs.map .getE, map_getE_isGetE rs,
        .inr ⟨nofun, rfl⟩⟩
  | noop _ | quit _ _ | version _ | stat _ | unknown => cases hc

theorem OrcaKind.step_replies (o : OrcaKind) (h1 h2 : Handler OEv) (hs1 : SilentHandler h1) (hs2 : SilentHandler h2)
    (c : Cmd) : (o.step h1 h2 c).Always (Replies c) := by
  cases hc : simpleCmd c with
  | some p =>
    rw [OrcaKind.step_simpleCmd hc]
    exact simpleCmd_replies hc
  | none =>
    cases o with
    | l1only => exact L1Only.step_replies h1 hs1 c hc
    | l1l2 => exact L1L2.step_replies h1 h2 hs1 hs2 c hc
    | l1l2batch => exact L1L2Batch.step_replies h1 h2 hs1 hs2 c hc

def OEv.isResp : OEv → Bool
  | .resp _ => true
  | _ => false

structure OnlyResp {α : Type} (p : OProg α) : Prop where
  out : ∀ a es, Runs p a es → ∀ e ∈ es, e.isResp = true

namespace OnlyResp

theorem respond (r : REv) : OnlyResp (respond r) :=
  ⟨Prog.Always.out fun e he => by
    cases List.mem_singleton.mp he
    rfl⟩

end OnlyResp

theorem Replies.onlyResp {c : Cmd} {p : OProg (HRes Unit)} (h : p.Always (Replies c)) : OnlyResp p :=
  ⟨h.mono fun _ _ ⟨rs, he, _⟩ e hm => by
    subst he
    obtain ⟨r, _, rfl⟩ := List.mem_map.mp hm
    rfl⟩

end Rend
