/-
  One reporting period of a histogram: what `observe` does field by field, and the invariant
  `PeriodInv` of the sample ring.
-/
import Rend.Metrics.Hist

namespace Rend.Metrics

theorem observe_count (s : Bool) (h : HDat) (v : Nat) : (observe s h v).count = h.count + 1 := by
  unfold observe; simp only; split <;> rfl

theorem observe_ring_length (s : Bool) (h : HDat) (v : Nat) : (observe s h v).ring.length = h.ring.length := by
  unfold observe; simp only; split <;> simp

theorem observe_min (s : Bool) (h : HDat) (v : Nat) : (observe s h v).min = min h.min v := by
  unfold observe
  simp only
  split <;> (simp only; split <;> omega)

theorem observe_max (s : Bool) (h : HDat) (v : Nat) : (observe s h v).max = max h.max v := by
  unfold observe
  simp only
  split <;> (simp only; split <;> omega)

theorem observeAll_min (s : Bool) (h : HDat) (vs : List Nat) : (observeAll s h vs).min = vs.foldl min h.min :=
  (List.foldl_hom (·.min) fun h v => (observe_min s h v).symm).symm

theorem observeAll_max (s : Bool) (h : HDat) (vs : List Nat) : (observeAll s h vs).max = vs.foldl max h.max :=
  (List.foldl_hom (·.max) fun h v => (observe_max s h v).symm).symm

/-- `min` and `max` start at the two ends of uint64, hence `hvs`. -/
theorem fresh_min_max (s : Bool) (ring : List Nat) (vs : List Nat) (hne : vs ≠ [])
    (hvs : ∀ v ∈ vs, v < 18446744073709551616) :
    (observeAll s { ring := ring } vs).min = vs.min hne ∧ (observeAll s { ring := ring } vs).max = vs.max hne := by
  rw [observeAll_min, observeAll_max, List.foldl_min_eq_min hne, List.foldl_max_eq_max hne]
  exact ⟨Nat.min_eq_right (Nat.le_of_lt_succ (hvs _ (List.min_mem hne))), Nat.zero_max _⟩

/-- Invariant of a period: the slots the summary will look at hold observations of this period,
    whatever stale values the recycled ring started with. -/
structure PeriodInv (obs : List Nat) (h : HDat) : Prop where
  ringLen : h.ring.length = ringLen
  slots : ∀ v ∈ h.ring.take h.kept, v ∈ obs

theorem observe_inv (s : Bool) (obs : List Nat) (h : HDat) (v : Nat) (hi : PeriodInv obs h) :
    PeriodInv (obs ++ [v]) (observe s h v) := by
  refine ⟨(observe_ring_length s h v).trans hi.ringLen, ?_⟩
  unfold observe
  simp only
  split
  · exact fun w hw => List.mem_append_left _ (hi.slots w hw)
  · intro w hw
    obtain ⟨i, hlt, rfl⟩ := List.mem_take_iff_getElem.mp hw
    simp only [List.length_set, hi.ringLen] at hlt
    rw [List.getElem_set]
    split
    · simp
    next hne =>
      -- slot `kept` is new only while the ring has not wrapped, and then it is the slot written
      have : i < h.kept := by
        have := Nat.mod_eq_of_lt (a := h.kept) (b := ringLen)
        omega
      exact List.mem_append_left _ (hi.slots _ (List.mem_take_iff_getElem.mpr ⟨i, by rw [hi.ringLen]; omega, rfl⟩))

theorem observeAll_inv (s : Bool) (obs : List Nat) (h : HDat) (vs : List Nat) (hi : PeriodInv obs h) :
    PeriodInv (obs ++ vs) (observeAll s h vs) := by
  unfold observeAll
  induction vs generalizing obs h with
  | nil => simpa using hi
  | cons v vs ih => simpa using ih _ _ (observe_inv s obs h v hi)

theorem usedSlice_eq_take (h : HDat) : usedSlice h = h.ring.take h.kept := by
  unfold usedSlice
  split
  · rfl
  · rw [List.take_of_length_le (by omega)]

theorem percentileIdx_lt (len i : Nat) (hl : 0 < len) (hi : i < 23) (h20 : i ≠ 20) :
    percentileIdx len i < len := by
  unfold percentileIdx
  split
  · omega
  · split
    · omega
    · exact (Nat.div_lt_iff_lt_mul (by decide)).mpr (Nat.mul_lt_mul_of_pos_left (by omega) hl)

end Rend.Metrics
