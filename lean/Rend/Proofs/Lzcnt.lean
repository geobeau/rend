/-
  metrics/lzcnt.go is a binary search for the highest set bit: "if the word is below 2^r, shift it
  left by s and add s to the count" for (r, s) = (32, 32), (48, 16), (56, 8), (60, 4), (62, 2),
  and the closing `n - x >> 63` is the same step once more for (63, 1), the count having started
  at 1 to pay for it.  One lemma about one such step, for variable r and s, carries the proof
  (`NlzInv.step`).
-/
import Rend.Base.Arith
import Rend.Gen.Pure

namespace Rend.Metrics
open Rend Rend.Gen

def nlzStep (r s : Nat) (p : BitVec 64 × BitVec 64) : BitVec 64 × BitVec 64 :=
  if p.2 >>> r == 0#64 then (p.1 + BitVec.ofNat 64 s, p.2 <<< s) else p

theorem shr_beq_zero (x : BitVec 64) (r : Nat) : (x >>> r == 0#64) = true ↔ x.toNat < 2 ^ r := by
  rw [beq_iff_eq, ← BitVec.toNat_inj, BitVec.toNat_ushiftRight, Nat.shiftRight_eq_div_pow,
    BitVec.toNat_ofNat, Nat.zero_mod, Nat.div_eq_zero_iff_lt (Nat.pow_pos (by decide))]

theorem shr_top (x : BitVec 64) (r : Nat) (h1 : 2 ^ r ≤ x.toNat) (h2 : x.toNat < 2 ^ (r + 1)) :
    x >>> r = 1#64 := by
  apply BitVec.eq_of_toNat_eq
  rw [BitVec.toNat_ushiftRight, Nat.shiftRight_eq_div_pow]
  rw [Nat.pow_succ] at h2
  show x.toNat / 2 ^ r = 1
  exact Nat.div_eq_of_lt_le (by omega) (by omega)

theorem lzcntPortable_eq (x : BitVec 64) :
    lzcntPortable x = if x == 0#64 then 64#64 else
      (nlzStep 63 1 (nlzStep 62 2 (nlzStep 60 4 (nlzStep 56 8 (nlzStep 48 16
        (nlzStep 32 32 (1#64, x))))))).1 - 1#64 := by
  -- `rfl` holds and the kernel accepts it at once, but the elaborator's check unrolls
  -- `x.toNat >>> 32` at every `if` it cannot decide; unfolding both sides to the same text is cheap
  have last (p : BitVec 64 × BitVec 64) : p.1 - p.2 >>> 63 = (nlzStep 63 1 p).1 - 1#64 := by
    unfold nlzStep
    split
    next h => rw [eq_of_beq h, BitVec.sub_zero, BitVec.add_sub_cancel]
    next h =>
      rw [shr_beq_zero, Nat.not_lt] at h
      rw [shr_top p.2 63 h p.2.isLt]
  rw [← last]
  simp only [lzcntPortable, nlzStep, Prod.eta, BitVec.setWidth_eq]

/-- What the search knows of the pair `p` = (count, word) when the input is `a`: the count is one more
    than some `k ≤ t`, the word is `a` shifted left by `k` places with nothing lost, and is at least 2^t. -/
def NlzInv (a t : Nat) (p : BitVec 64 × BitVec 64) : Prop :=
  ∃ k, p.1.toNat = k + 1 ∧ k ≤ t ∧ p.2.toNat = a * 2 ^ k ∧ 2 ^ t ≤ p.2.toNat

theorem NlzInv.init {x : BitVec 64} (hx : x ≠ 0#64) : NlzInv x.toNat 0 (1#64, x) :=
  ⟨0, rfl, Nat.le_refl _, by simp, Nat.pos_of_ne_zero fun h => hx (BitVec.eq_of_toNat_eq h)⟩

theorem NlzInv.step {a t r s : Nat} {p : BitVec 64 × BitVec 64} (ht : t + s = r) (hr : r + s ≤ 64)
    (h : NlzInv a t p) : NlzInv a r (nlzStep r s p) := by
  obtain ⟨k, hn, hk, hx, htop⟩ := h
  unfold nlzStep
  simp only [shr_beq_zero]
  split
  next hlt =>
    -- the word is below 2^r, so shifting it by s loses nothing
    have hsh : (p.2 <<< s).toNat = p.2.toNat * 2 ^ s := by
      rw [BitVec.toNat_shiftLeft, Nat.shiftLeft_eq, Nat.mod_eq_of_lt]
      calc p.2.toNat * 2 ^ s < 2 ^ r * 2 ^ s := Nat.mul_lt_mul_of_pos_right hlt (Nat.pow_pos (by decide))
        _ ≤ 2 ^ 64 := by rw [← Nat.pow_add]; exact Nat.pow_le_pow_right (by decide) hr
    refine ⟨k + s, ?_, by omega, ?_, ?_⟩
    · show (p.1 + BitVec.ofNat 64 s).toNat = _
      rw [BitVec.toNat_add, BitVec.toNat_ofNat]; omega
    · show (p.2 <<< s).toNat = _
      rw [hsh, hx, Nat.mul_assoc, ← Nat.pow_add]
    · show _ ≤ (p.2 <<< s).toNat
      rw [hsh, ← ht, Nat.pow_add]
      exact Nat.mul_le_mul_right _ htop
  next hge => exact ⟨k, hn, by omega, hx, Nat.le_of_not_lt hge⟩

theorem NlzInv.done {a : Nat} {p : BitVec 64 × BitVec 64} (ha : a ≠ 0) (h : NlzInv a 63 p) :
    (p.1 - 1#64).toNat = 63 - a.log2 := by
  obtain ⟨k, hn, hk, hx, htop⟩ := h
  have hlt := p.2.isLt
  have split (j : Nat) (hj : k ≤ j) : 2 ^ j = 2 ^ (j - k) * 2 ^ k := by
    rw [← Nat.pow_add, Nat.sub_add_cancel hj]
  rw [hx, split 63 hk] at htop
  rw [hx, split 64 (by omega), ← show 63 - k + 1 = 64 - k by omega] at hlt
  have : a.log2 = 63 - k := (Nat.log2_eq_iff ha).mpr
    ⟨Nat.le_of_mul_le_mul_right htop (Nat.pow_pos (by decide)), Nat.lt_of_mul_lt_mul_right hlt⟩
  rw [BitVec.toNat_sub, hn, this]
  show (2 ^ 64 - 1 + (k + 1)) % 2 ^ 64 = _
  omega

theorem lzcntPortable_toNat (x : BitVec 64) (hx : x ≠ 0#64) :
    (lzcntPortable x).toNat = 63 - x.toNat.log2 := by
  rw [lzcntPortable_eq, if_neg (by simpa using hx)]
  exact NlzInv.done (fun h => hx (BitVec.eq_of_toNat_eq h)) <| .step rfl (by decide) <|
    .step rfl (by decide) <| .step rfl (by decide) <| .step rfl (by decide) <|
    .step rfl (by decide) <| .step rfl (by decide) <| .init hx

theorem lzcntModel_spec (x : BitVec 64) (hx : x ≠ 0#64) :
    (lzcntModel x).toNat = 63 - x.toNat.log2 ∧ x.toNat.log2 ≤ 63 := by
  have hlt := x.isLt
  have hne : x.toNat ≠ 0 := fun h => hx (BitVec.eq_of_toNat_eq (by simpa using h))
  have hl : x.toNat.log2 < 64 := (Nat.log2_lt hne).mpr (by simpa using hlt)
  simp only [lzcntModel, if_neg hx, BitVec.toNat_ofNat]
  omega

end Rend.Metrics
