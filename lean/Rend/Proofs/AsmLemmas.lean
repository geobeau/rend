/-
  One-step unfolding lemmas for the x86 fragment, so that a concrete routine can be executed
  symbolically by a short chain of rewrites.
-/
import Rend.Metrics.AsmX86

namespace Rend.Metrics

theorem toNat_bsr (x : BitVec 64) : (bsr x).toNat = x.toNat.log2 :=
  Nat.mod_eq_of_lt (Nat.lt_of_le_of_lt (Nat.log2_le_self _) x.isLt)

variable (prog : List Instr) (undef : BitVec 64) (fuel pc : Nat) (m : Machine)

theorem run_ret (h : prog[pc]? = some .ret) : run prog undef (fuel + 1) pc m = some m := by
  simp [run, h]

theorem run_label (l : String) (h : prog[pc]? = some (.label l)) :
    run prog undef (fuel + 1) pc m = run prog undef fuel (pc + 1) m := by
  simp [run, h]

theorem run_movq (s d : Operand) (h : prog[pc]? = some (.movq s d)) :
    run prog undef (fuel + 1) pc m = run prog undef fuel (pc + 1) (m.write d (m.read s)) := by
  simp [run, h]

theorem run_bsrq_zero (s d : Operand) (h : prog[pc]? = some (.bsrq s d)) (hv : m.read s = 0#64) :
    run prog undef (fuel + 1) pc m = run prog undef fuel (pc + 1) { (m.write d undef) with zf := true } := by
  simp [run, h, hv]

theorem run_bsrq_nz (s d : Operand) (h : prog[pc]? = some (.bsrq s d)) (hv : m.read s ≠ 0#64) :
    run prog undef (fuel + 1) pc m = run prog undef fuel (pc + 1) { (m.write d (bsr (m.read s))) with zf := false } := by
  simp [run, h, hv]

theorem run_subq (s d : Operand) (h : prog[pc]? = some (.subq s d)) :
    run prog undef (fuel + 1) pc m =
      run prog undef fuel (pc + 1) { (m.write d (m.read d - m.read s)) with zf := decide (m.read d - m.read s = 0#64) } := by
  simp [run, h]

theorem run_negq (d : Operand) (h : prog[pc]? = some (.negq d)) :
    run prog undef (fuel + 1) pc m =
      run prog undef fuel (pc + 1) { (m.write d (- m.read d)) with zf := decide (- m.read d = 0#64) } := by
  simp [run, h]

theorem run_jz_taken (l : String) (t : Nat) (h : prog[pc]? = some (.jz l)) (hz : m.zf = true)
    (ht : findLabel prog l = some t) : run prog undef (fuel + 1) pc m = run prog undef fuel t m := by
  simp [run, h, hz, ht]

theorem run_jz_not (l : String) (h : prog[pc]? = some (.jz l)) (hz : m.zf = false) :
    run prog undef (fuel + 1) pc m = run prog undef fuel (pc + 1) m := by
  simp [run, h, hz]

end Rend.Metrics
