/-
  Writes of the chunked handler keep the backend store consistent, request by request —
  hence under every interleaving of the requests of any number of writers and any loss of entries.
-/
import Rend.Proofs.ChunkedLayout
import Rend.Proofs.StoreLemmas

namespace Rend.Chunked
open Rend

def IsWriteOf (h : Intent) (r : Req) : Prop :=
  (r.key = metaKey h.key ∧ ∃ m : Meta, r.value = encodeMeta m ∧ m.WF ∧ h.Describes m) ∨
  (∃ i, r.key = chunkKey h.key i ∧ r.value = h.chunkVal i)

/-- The requests the chunked handler's set and read paths send: a write of an entry of one of
    the intents, or anything that stores no new value. -/
def ReqOK (H : List Intent) (r : Req) : Prop :=
  match r.op with
  | .set | .add | .replace => ∃ h ∈ H, IsWriteOf h r
  | .append | .prepend => False
  | _ => True

/-- `_t` as in `Derived`: a predicate that `AllReqs` takes. -/
def IsStoreWrite (h : Intent) (_t : Tier) (r : Req) : Prop :=
  (r.op = .set ∨ r.op = .add ∨ r.op = .replace) ∧ IsWriteOf h r

theorem Consistent.empty (H : List Intent) (ht : ∀ h ∈ H, ∀ h' ∈ H, h.token = h'.token → h = h')
    (hl : ∀ h ∈ H, h.token.length = 16) (hk : ∀ h ∈ H, h.key.length ≤ 250) : Consistent Store.empty H :=
  ⟨fun _ _ h => by simp [Store.empty] at h, fun _ _ _ h => by simp [Store.empty] at h, ht, hl, hk⟩

theorem Consistent.set {s : Store} {H : List Intent} (hc : Consistent s H) (k : Bytes) (v : Option Item)
    (hm : ∀ key it, v = some it → k = metaKey key → ∃ h ∈ H, h.key = key ∧ h.Describes (decodeMeta it.data))
    (hch : ∀ key i it, v = some it → k = chunkKey key i → ∃ h ∈ H, h.key = key ∧ it.data = h.chunkVal i) :
    Consistent (s.set k v) H := by
  refine ⟨fun key it h => ?_, fun key i it h => ?_, hc.tokens, hc.toklen, hc.keylen⟩ <;>
    simp only [Store.set] at h <;> split at h
  · next hk => exact hm key it h hk.symm
  · exact hc.metaE key it h
  · next hk => exact hch key i it h hk.symm
  · exact hc.chunkE key i it h

theorem Consistent.drop {s : Store} {H : List Intent} (hc : Consistent s H) (k : Bytes) : Consistent (s.set k none) H :=
  hc.set k none (fun _ _ h => nomatch h) (fun _ _ _ h => nomatch h)

theorem Consistent.retime {s : Store} {H : List Intent} (hc : Consistent s H) (k : Bytes) (it : Item) (hs : s k = some it)
    (f d : Nat) : Consistent (s.set k (some ⟨it.data, f, d⟩)) H :=
  hc.set k _ (fun key _ h hk => Option.some.inj h ▸ hc.metaE key it (hk ▸ hs))
    (fun key i _ h hk => Option.some.inj h ▸ hc.chunkE key i it (hk ▸ hs))

theorem Consistent.write {s : Store} {H : List Intent} (hc : Consistent s H) (h : Intent) (hH : h ∈ H) (r : Req)
    (hw : IsWriteOf h r) (f d : Nat) : Consistent (s.set r.key (some ⟨r.value, f, d⟩)) H := by
  refine hc.set _ _ (fun key it hv hk => ?_) (fun key i it hv hk => ?_) <;> cases hv
  · rcases hw with ⟨hkey, m, hv, hwf, hd⟩ | ⟨i, hkey, _⟩
    · exact ⟨h, hH, metaKey_inj _ _ (hkey.symm.trans hk), by simp only [hv, decode_encode m hwf]; exact hd⟩
    · exact absurd (hk.symm.trans hkey) (metaKey_ne_chunkKey _ _ _)
  · rcases hw with ⟨hkey, _⟩ | ⟨j, hkey, hv⟩
    · exact absurd (hkey.symm.trans hk) (metaKey_ne_chunkKey _ _ _)
    · obtain ⟨h1, h2⟩ := chunkKey_inj _ _ _ _ (hkey.symm.trans hk)
      exact ⟨h, hH, h1, by simp only [hv, h2]⟩

theorem Consistent.exec {s : Store} {H : List Intent} (hc : Consistent s H) (now : Nat) (r : Req) (hr : ReqOK H r) :
    Consistent (Mc.exec now s r).1 H := by
  unfold ReqOK at hr
  cases hop : r.op <;> simp only [hop] at hr <;> simp only [Mc.exec, hop]
  case noop => exact hc
  case get | getq | gete | geteq => split <;> exact hc
  case gat | gatq | touch =>
    split
    · next it hl => exact hc.retime r.key it (look_some.mp hl).1 _ _
    · exact hc
  case delete =>
    split
    · exact hc.drop r.key
    · exact hc
  case set =>
    obtain ⟨h, hH, hw⟩ := hr
    exact hc.write h hH r hw _ _
  case add =>
    obtain ⟨h, hH, hw⟩ := hr
    split
    · exact hc
    · exact hc.write h hH r hw _ _
  case replace =>
    obtain ⟨h, hH, hw⟩ := hr
    split
    · exact hc.write h hH r hw _ _
    · exact hc

end Rend.Chunked
