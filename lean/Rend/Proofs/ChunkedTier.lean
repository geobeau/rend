/-
  Footprint of the chunked handler, with the tier: every request of a method of the chunking
  handler built for tier `t0` goes to tier `t0` and addresses the metadata entry or a numbered chunk
  of the client key the method was called for (or is a key-less noop) — whatever the backend
  answers.  Instances of `ChunkedReqs`.
-/
import Rend.Proofs.ChunkedReqs
import Rend.Proofs.HandlerFoot

namespace Rend.Chunked
open Rend

def DerivedAt (t0 : Tier) (key : Bytes) (t : Tier) (r : Req) : Prop := t = t0 ∧ Derived key t r

variable {ε : Type}

theorem DerivedAt.noop (t : Tier) (key : Bytes) {r : Req} (h : r.op = .noop) : DerivedAt t key t r :=
  ⟨rfl, Or.inl h⟩

theorem DerivedAt.meta (t : Tier) {key : Bytes} {r : Req} (h : r.key = metaKey key) : DerivedAt t key t r :=
  ⟨rfl, Or.inr (Or.inl h)⟩

theorem DerivedAt.chunk (t : Tier) {key : Bytes} {r : Req} (j : Nat) (h : r.key = chunkKey key j) : DerivedAt t key t r :=
  ⟨rfl, Or.inr (Or.inr ⟨j, h⟩)⟩

theorem DerivedAt.readReqs (t : Tier) (mop cop : Op) (key : Bytes) (e : Nat) :
    ReadReqs (DerivedAt t key) t mop cop key e :=
  ⟨.meta t rfl, .noop t key rfl, fun j => .chunk t j rfl⟩

theorem readChunks_derivedAt (t : Tier) (op : Op) (key : Bytes) (e : Nat) (md : Meta) :
    AllReqs (DerivedAt t key) (readChunks (ε := ε) t op key e md) :=
  ((DerivedAt.readReqs t op op key e).readChunks md).reqs

theorem setCommon_derivedAt (t : Tier) (now : Nat) (k : SetKind) (c : SetCmd) :
    AllReqs (DerivedAt t c.key) (setCommon (ε := ε) t now k c) :=
  allReqs_setCommon t now k c fun _ _ => ⟨.meta t rfl, fun j => .chunk t j rfl⟩

theorem store_derivedAt (t : Tier) (now : Nat) (k : SetKind) (c : SetCmd) :
    AllReqs (DerivedAt t c.key) (Chunked.store (ε := ε) t now k c) :=
  (store_sends t now k c (DerivedAt.readReqs ..) fun k' c' hk => hk ▸ setCommon_derivedAt t now k' c').reqs

theorem gat_derivedAt (t : Tier) (c : KeyCmd) : AllReqs (DerivedAt t c.key) (Chunked.gat (ε := ε) t c) :=
  (gat_sends t c (DerivedAt.readReqs ..)).reqs

theorem delete_derivedAt (t : Tier) (c : KeyCmd) : AllReqs (DerivedAt t c.key) (Chunked.delete (ε := ε) t c) :=
  (delete_sends t c (.meta t rfl) (.meta t rfl) fun j => .chunk t j rfl).reqs

theorem touch_derivedAt (t : Tier) (now : Nat) (c : KeyCmd) : AllReqs (DerivedAt t c.key) (Chunked.touch (ε := ε) t now c) :=
  (touch_sends t now c (.meta t rfl) (fun j => .chunk t j rfl) fun _ _ => .meta t rfl).reqs

theorem getLoop_readReqs (t : Tier) (ks : List GetKey) :
    ∀ g ∈ ks, ReadReqs (fun t' r => ∃ g ∈ ks, DerivedAt t g.key t' r) t .get .getq g.key 0 :=
  fun g hg => ⟨⟨g, hg, .meta t rfl⟩, ⟨g, hg, .noop t g.key rfl⟩, fun j => ⟨g, hg, .chunk t j rfl⟩⟩

theorem getLoop_derivedAt (t : Tier) : ∀ ks : List GetKey,
    AllReqs (fun t' r => ∃ g ∈ ks, DerivedAt t g.key t' r) (getLoop (ε := ε) t ks) :=
  fun ks => (reqsPost_getLoop t ks (getLoop_readReqs t ks)).toAll

theorem handler_foot (t : Tier) (now : Nat) : (Chunked.handler (ε := ε) t now).Foot (DerivedAt t) where
  store := store_derivedAt t now
  gat := gat_derivedAt t
  delete := delete_derivedAt t
  touch := touch_derivedAt t now
  get ks := reqsPost_getLoop t ks (getLoop_readReqs t ks)
  getE _ := ReqsPost.pure _ fun _ hr => nomatch hr

end Rend.Chunked
