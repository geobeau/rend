/-
  Single-fault runs of the two-tier orchestrators over pass-through handlers: if the command is
  ACKNOWLEDGED, the backends are where the fault-free run would have left them or where the
  compensation leaves them — L2 is the specification's new map and the cache invariant holds.
  The argument is made once, for `twoTier`: an answer that reads as success or as a tolerated miss
  cannot be the fault's, so the request behind it was performed.
-/
import Rend.Proofs.FaultRun
import Rend.Proofs.OrcaRefine

namespace Rend

/-- Runner state at the start of a command: both backend connections alive, counters at zero. -/
def fresh (w : World) (tk : List Bytes) : RunSt := { w := w, toks := tk }

/-- The fault plans of the property: the connection is cut before or after the request, or the
    backend answers with an ERROR status — one that no command treats as a normal outcome (a miss,
    "exists" and "not stored" are answers, not faults: injected, they are false statements about
    the backend's content, which nothing in front of the backend can detect). -/
def TrueErr (f : Fault) : Prop :=
  match f.kind with
  | .status c => ∃ e, decodeError c = some e ∧ e ≠ .keyNotFound ∧ e ≠ .keyExists ∧ e ≠ .itemNotStored
  | _ => True

theorem std_store_eq (t : Tier) : (Std.handler (ε := OEv) t).store = Std.store t := rfl
theorem std_delete_eq (t : Tier) (k : KeyCmd) :
    (Std.handler (ε := OEv) t).delete k = Std.simple t { op := .delete, key := k.key } := rfl
theorem std_touch_eq (t : Tier) (k : KeyCmd) :
    (Std.handler (ε := OEv) t).touch k = Std.simple t { op := .touch, key := k.key, exptime := k.exptime } := rfl

/-- Case analysis over the fault plan (tier, request index 0 / 1 / later, kind) followed by
    symbolic execution of the runner.  Boolean facts about the stores (does the key exist in L1 /
    L2) are to be split by the caller beforehand and are picked up from the context. -/
macro "fault_tac" hf:ident tier:ident idx:ident kind:ident : tactic =>
  `(tactic| (
    cases $tier:ident <;> cases $kind:ident <;> (by_cases h0 : $idx:ident = 0) <;> (try subst h0) <;>
      (try (by_cases h1 : $idx:ident = 1)) <;> (try subst h1) <;>
      (simp only [TrueErr] at $hf:ident) <;> (try obtain ⟨e, he, hne1, hne2, hne3⟩ := $hf:ident) <;>
      simp [runSt_andThen_store, runSt_andThen_simple, RunSt.exec, fresh, RunSt.dead, RunSt.count, RunSt.bump, RunSt.kill,
        mc_exec_store, mc_exec_delete, mc_exec_touch, decode_notFound, isErr, missErr, World.put, *]))

theorem fresh_dead (w : World) (tk : List Bytes) (t : Tier) : (fresh w tk).dead t = false := by
  cases t <;> rfl

theorem fresh_count (w : World) (tk : List Bytes) (t : Tier) : (fresh w tk).count t = 0 := by
  cases t <;> rfl

/-- A handler error that no write method takes for an ordinary answer of the backend. -/
def Hard (e : HErr) : Prop := e ≠ .app .keyNotFound ∧ e ≠ .app .keyExists ∧ e ≠ .app .itemNotStored

theorem hard_isErr {e : HErr} (h : Hard e) (x : Err) (hx : x = .keyNotFound ∨ x = .keyExists ∨ x = .itemNotStored) :
    isErr (.error e) x = false := by
  cases e with
  | app y =>
    have hy : y ≠ x := by
      rintro rfl
      rcases hx with rfl | rfl | rfl
      · exact h.1 rfl
      · exact h.2.1 rfl
      · exact h.2.2 rfl
    simpa [isErr] using hy
  | _ => rfl

theorem hard_not_notFound (e : HErr) (h : Hard e) : isErr (.error e) .keyNotFound = false :=
  hard_isErr h _ (.inl rfl)

theorem L1L2.storeTol_hard (k : SetKind) (e : HErr) (h : Hard e) : L1L2.storeTol k (.error e) = false := by
  cases k <;> simp [L1L2.storeTol, hard_isErr h .itemNotStored (.inr (.inr rfl)), hard_not_notFound e h]

theorem L1L2Batch.storeTol_hard (k : SetKind) (e : HErr) (h : Hard e) : L1L2Batch.storeTol k (.error e) = false := by
  cases k <;> simp [L1L2Batch.storeTol, hard_isErr h .itemNotStored (.inr (.inr rfl)), hard_not_notFound e h]

theorem RunSt.not_struck (now : Nat) (f : Fault) (hf : TrueErr f) (s : RunSt) (t : Tier) (r : Req) (hd : s.dead t = false)
    (p : Bool) (tol : HRes Unit → Bool) (htol : ∀ e, Hard e → tol (.error e) = false)
    (h : tol (stdRes p (s.exec now (some f) t r).2) = true ∨ stdRes p (s.exec now (some f) t r).2 = .ok ()) :
    ¬ (f.tier = t ∧ f.idx = s.count t) := by
  intro hs
  rw [RunSt.exec_struck now f s t r hd hs] at h
  unfold TrueErr at hf
  generalize f.kind = k at hf h
  cases k with
  | status c =>
    obtain ⟨e, he, hh⟩ := hf
    simp [stdRes, he, htol (.app e) (by simpa [Hard] using hh)] at h
  | cutBefore | cutAfter => cases p <;> simp [stdRes, htol .io (by simp [Hard]), htol .panic (by simp [Hard])] at h

/-- A call that panics on a lost connection (`stdRes true`) returns an ordinary error, not a
    tolerated one, where the backend's own answer would have been accepted (`hown`): it is the
    fault's status.  The request was not performed, and the next one on that connection is. -/
theorem RunSt.exec_after_refused (now : Nat) (f : Fault) (s : RunSt) (t : Tier) (r r' : Req) (hd : s.dead t = false)
    (tol : HRes Unit → Bool) {e : HErr} (he : stdRes true (s.exec now (some f) t r).2 = .error e) (hp : e ≠ .panic)
    (ht : tol (.error e) = false)
    (hown : tol (stdRes true (Mc.exec now (s.w.get t) r).2) = true ∨ stdRes true (Mc.exec now (s.w.get t) r).2 = .ok ()) :
    ((s.exec now (some f) t r).1.exec now (some f) t r').1.w = s.w.put t (Mc.exec now (s.w.get t) r').1 := by
  by_cases hs : f.tier = t ∧ f.idx = s.count t
  · rw [RunSt.exec_struck now f s t r hd hs] at he ⊢
    generalize f.kind = k at he ⊢
    cases k with
    | status c =>
      rw [RunSt.exec_clean now f _ t r' (by simp [hd]) (by simp [hs.2])]
      rfl
    | cutBefore | cutAfter => exact absurd (Except.error.inj he).symm hp
  · rw [RunSt.exec_clean now f s t r hd hs] at he
    rw [show stdRes true (Mc.exec now (s.w.get t) r).2 = .error e from he, ht] at hown
    rcases hown with h | h <;> cases h

/-- An acknowledged two-tier write under a single fault has performed its requests, or, on L1, the
    compensating `rc` in place of its own.  `hcomp`: where the method compensates, the L1 call is
    one that panics on a lost connection and L1's own answer would have been accepted.  (With an
    L1 call that returned a lost connection as an ordinary error, the compensation would go to the
    dead connection, its failure be ignored, and the write be acknowledged with the old value
    still in L1.) -/
theorem twoTier_acked (now : Nat) (w : World) (tk : List Bytes) (f : Fault) (hf : TrueErr f) (r2 r1 : Req) (p2 p1 : Bool)
    (tol : HRes Unit → Bool) (htol : ∀ e, Hard e → tol (.error e) = false) (rc : Option Req)
    (hcomp : rc ≠ none → p1 = true ∧
      (tol (stdRes p1 (Mc.exec now w.l1 r1).2) = true ∨ stdRes p1 (Mc.exec now w.l1 r1).2 = .ok ())) (ev : REv) :
    let run := (twoTier (Std.call .l2 r2 (stdRes p2)) (Std.call .l1 r1 (stdRes p1)) tol
      (rc.map fun r => Std.call .l1 r (stdRes false)) ev).runSt now (some f) (fresh w tk)
    run.1 = .ok () →
      stdRes p2 (Mc.exec now w.l2 r2).2 = .ok () ∧ run.2.2.w.l2 = (Mc.exec now w.l2 r2).1 ∧
      (run.2.2.w.l1 = (Mc.exec now w.l1 r1).1 ∨ ∃ r, rc = some r ∧ run.2.2.w.l1 = (Mc.exec now w.l1 r).1) := by
  dsimp only
  intro hok
  -- the run has read L2's answer as success, and L1's as success or a tolerated miss (first case
  -- below) or as an error that `rc` made up for (second case)
  obtain ⟨h2, h1⟩ := runSt_twoTier_acked now (some f) .l2 .l1 r2 r1 _ _ tol _ ev (fresh w tk) hok
  -- an answer read as success is not the fault's: L2 performed its request
  have c2 := RunSt.not_struck now f hf _ .l2 r2 (fresh_dead ..) p2 (fun _ => false) (fun _ _ => rfl) (.inr h2)
  rw [RunSt.exec_clean now f _ .l2 r2 (fresh_dead ..) c2] at h2 h1
  refine ⟨h2, ?_⟩
  have d1 : ∀ w' tr, ((fresh w tk).adv .l2 w' tr).dead .l1 = false := fun _ _ =>
    (RunSt.adv_dead ..).trans (fresh_dead ..)
  rcases h1 with ⟨h, hs⟩ | ⟨e, d, he, hp, ht, hd, hs⟩
  · -- nor is one read as a tolerated miss: L1 performed its request as well
    have c1 := RunSt.not_struck now f hf _ .l1 r1 (d1 ..) p1 tol htol h
    rw [hs, RunSt.exec_clean now f _ .l1 r1 (d1 ..) c1]
    exact ⟨rfl, .inl rfl⟩
  · cases rc with
    | none => cases hd
    | some rc =>
      -- the error is the fault's status on the L1 request, and `rc` is the next request to L1
      obtain ⟨rfl, hown⟩ := hcomp nofun
      cases hd
      rw [hs, runSt_compensate, RunSt.exec_after_refused now f _ .l1 r1 rc (d1 ..) tol he hp ht hown]
      exact ⟨rfl, .inr ⟨_, rfl, rfl⟩⟩

theorem stdRes_ok_iff (p b : Bool) (c : Nat) (e : Err) (hc : decodeError c = some e) :
    stdRes p (if b then .ok else .status c) = .ok () ↔ b = true := by
  cases b <;> simp [stdRes, hc]

theorem key_pair_acked (now : Nat) (w : World) (tk : List Bytes) (r : Req) (ev : REv) (f : Fault) (hf : TrueErr f) :
    let run := (twoTier (Std.simple .l2 r) (Std.simple .l1 r) (isErr · .keyNotFound) none ev).runSt now (some f) (fresh w tk)
    run.1 = .ok () →
      stdRes false (Mc.exec now w.l2 r).2 = .ok () ∧ run.2.2.w.l2 = (Mc.exec now w.l2 r).1 ∧
      run.2.2.w.l1 = (Mc.exec now w.l1 r).1 := by
  simp only [Std.simple_eq_call]
  intro hok
  have := twoTier_acked now w tk f hf _ _ _ _ _ hard_not_notFound none (fun h => absurd rfl h) _ hok
  simpa only [Option.map_none, reduceCtorEq, false_and, exists_false, or_false] using this

theorem inv_of_fields {now : Nat} {w' : World} {a b : Store} (h1 : w'.l1 = a) (h2 : w'.l2 = b)
    (h : CacheInv now { l1 := a, l2 := b }) : CacheInv now w' := by
  cases w'; simp only at h1 h2; subst h1; subst h2; exact h

inductive IsWrite : Cmd → Prop where
  | store (k : SetKind) (c : SetCmd) : IsWrite (.store k c)
  | delete (c : KeyCmd) : IsWrite (.delete c)
  | touch (c : KeyCmd) : IsWrite (.touch c)

section
variable (now : Nat) (w : World) (tk : List Bytes) (f : Fault) (hf : TrueErr f) (hinv : CacheInv now w)
include hf hinv

theorem store_pair_correct (k k1 : SetKind) (hp : Pairing k k1) (c : SetCmd) (tol : HRes Unit → Bool)
    (htol : ∀ e, Hard e → tol (.error e) = false)
    (hclean : k = .set → tol (stdRes true (Mc.exec now w.l1 (stdReq k1 c)).2) = true ∨
      stdRes true (Mc.exec now w.l1 (stdReq k1 c)).2 = .ok ()) :
    let r := (twoTier ((Std.handler .l2).store k c) ((Std.handler .l1).store k1 c) tol (setComp (Std.handler .l1) k c)
      (.stored k c.opq c.quiet)).runSt now (some f) (fresh w tk)
    r.1 = .ok () →
      (Spec.step now w.l2 (.store k c)).2 = .ok ∧ r.2.2.w.l2 = (Spec.step now w.l2 (.store k c)).1 ∧ CacheInv now r.2.2.w := by
  simp only [std_store_eq, Std.store_eq_call, spec_step_store]
  intro hok
  by_cases hk : k = .set
  · subst hk
    simp only [setComp, std_delete_eq, Std.simple_eq_call] at hok ⊢
    obtain ⟨-, hl2, hl1⟩ := twoTier_acked now w tk f hf _ _ _ _ tol htol (some { op := .delete, key := c.key })
      (fun _ => ⟨rfl, hclean rfl⟩) _ hok
    simp only [mc_exec_store, mc_exec_delete, Option.some.injEq, exists_eq_left'] at hl2 hl1
    refine ⟨rfl, hl2, ?_⟩
    rcases hl1 with h1 | h1
    · exact inv_of_fields h1 hl2 (inv_store now w .set k1 c hp hinv rfl)
    · exact inv_of_fields h1 hl2 (inv_set_compensated now w c hinv)
  · have hcomp : setComp (Std.handler .l1) k c = none := by
      cases k with
      | set => exact absurd rfl hk
      | _ => rfl
    rw [hcomp] at hok ⊢
    obtain ⟨h2, hl2, hl1⟩ := twoTier_acked now w tk f hf _ _ _ _ tol htol none (fun h => absurd rfl h) _ hok
    simp only [mc_exec_store, stdRes_ok_iff _ _ _ _ (decode_fail k hk), reduceCtorEq, false_and, exists_false,
      or_false] at h2 hl2 hl1
    exact ⟨by rw [h2]; rfl, hl2, inv_of_fields hl1 hl2 (inv_store now w k k1 c hp hinv h2)⟩

/-- `C10_acked_write_main` / `_batch` (Props/C10.lean, where the claim is spelled out), for either port. -/
theorem acked_write_is_correct (p : Port) (c : Cmd) (hc : IsWrite c)
    (hok : ((portStep p c).runSt now (some f) (fresh w tk)).1 = .ok ()) :
    (Spec.step now w.l2 c).2 = .ok ∧
    ((portStep p c).runSt now (some f) (fresh w tk)).2.2.w.l2 = (Spec.step now w.l2 c).1 ∧
    CacheInv now ((portStep p c).runSt now (some f) (fresh w tk)).2.2.w := by
  cases hc with
  | store k sc =>
    cases p with
    | main =>
      rw [show portStep .main (.store k sc) = _ from L1L2.step_store _ _ k sc] at hok ⊢
      refine store_pair_correct now w tk f hf hinv k k (.self k) sc _ (L1L2.storeTol_hard k) (fun hk => .inr ?_) hok
      subst hk
      simp [mc_exec_store, mcStore, stdRes]
    | batch =>
      rw [show portStep .batch (.store k sc) = _ from L1L2Batch.step_store _ _ k sc] at hok ⊢
      refine store_pair_correct now w tk f hf hinv k _ (.batch k) sc _ (L1L2Batch.storeTol_hard k) (fun hk => ?_) hok
      subst hk
      cases h : (mcStore now w.l1 .replace sc).2 <;>
        simp [L1L2Batch.l1Kind, L1L2Batch.storeTol, mc_exec_store, h, stdRes, failCode, decode_notFound, isErr]
  | delete kc =>
    simp only [portStep_delete, std_delete_eq] at hok ⊢
    have h := key_pair_acked now w tk _ _ f hf hok
    simp only [mc_exec_delete, stdRes_ok_iff _ _ _ _ decode_notFound] at h
    rw [spec_step_delete]
    exact ⟨by simp [h.1], h.2.1, inv_of_fields h.2.2 h.2.1 (inv_delete now w kc.key hinv)⟩
  | touch kc =>
    simp only [portStep_touch, std_touch_eq] at hok ⊢
    have h := key_pair_acked now w tk _ _ f hf hok
    simp only [mc_exec_touch, stdRes_ok_iff _ _ _ _ decode_notFound] at h
    rw [spec_step_touch]
    exact ⟨by simp [h.1], h.2.1, inv_of_fields h.2.2 h.2.1 (inv_touch now w kc.key kc.exptime hinv)⟩

end
end Rend
