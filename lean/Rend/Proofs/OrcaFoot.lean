/-
  Where an orchestrator's backend requests go, for ANY two handlers: if what the handlers ask the
  backends on behalf of client key `k` satisfies `F k` (`Handler.Foot`), so does every request of
  the orchestrator's program for a single-key command on `k`.  `F` is arbitrary, so one traversal
  of each orchestrator serves "addresses key `k`" (pass-through handlers), "addresses an entry
  derived from `k`" (chunking handler), footprints per tier, ….  A caller that builds the `Foot`
  arguments by `.mono` gives `F` by name (`(F := …)`) or types them first: elaborated before the goal
  is known, the `.mono` function leaves `F` a term that no longer unifies with a defined predicate.
-/
import Rend.Proofs.HandlerFoot
import Rend.Proofs.Runs

namespace Rend

def cmdKey : Cmd → Option Bytes
  | .store _ s => some s.key
  | .get g => match g.keys with
    | [gk] => some gk.key
    | _ => none
  | .getE g => match g.keys with
    | [gk] => some gk.key
    | _ => none
  | .gat c => some c.key
  | .delete c => some c.key
  | .touch c => some c.key
  | _ => none

theorem keys_of_single {g : GetCmd} {gk : GetKey} {k : Bytes} (hg : g.keys = [gk]) (hk : gk.key = k) :
    ∀ x ∈ g.keys, x.key = k := fun x hx => by
  rw [hg, List.mem_singleton] at hx
  rw [hx, hk]

theorem cmdKey_cases {motive : Cmd → Prop} {c : Cmd} {k : Bytes} (h : cmdKey c = some k)
    (store : ∀ kind s, s.key = k → motive (.store kind s))
    (get : ∀ g gk, g.keys = [gk] → gk.key = k → motive (.get g))
    (getE : ∀ g gk, g.keys = [gk] → gk.key = k → motive (.getE g))
    (gat : ∀ kc, kc.key = k → motive (.gat kc)) (delete : ∀ kc, kc.key = k → motive (.delete kc))
    (touch : ∀ kc, kc.key = k → motive (.touch kc)) : motive c := by
  have single : ∀ g : GetCmd, (match g.keys with | [gk] => some gk.key | _ => none) = some k →
      ∃ gk, g.keys = [gk] ∧ gk.key = k := by
    intro g hg
    split at hg
    · next gk hk => exact ⟨gk, hk, Option.some.inj hg⟩
    · cases hg
  cases c with
  | store kind s => exact store kind s (Option.some.inj h)
  | get g =>
    obtain ⟨gk, hg, hk⟩ := single g h
    exact get g gk hg hk
  | getE g =>
    obtain ⟨gk, hg, hk⟩ := single g h
    exact getE g gk hg hk
  | gat kc => exact gat kc (Option.some.inj h)
  | delete kc => exact delete kc (Option.some.inj h)
  | touch kc => exact touch kc (Option.some.inj h)
  | noop o => cases h
  | quit o q => cases h
  | version o => cases h
  | stat o => cases h
  | unknown => cases h

namespace AllReqs
variable {P : Tier → Req → Prop}

theorem respond (e : REv) : AllReqs P (respond e) := AllReqs.emit _ _ (AllReqs.ret _)

theorem emitGets : ∀ rs : List GetResp, AllReqs P (emitGets rs)
  | [] => AllReqs.pure _
  | _ :: rs => AllReqs.emit _ _ (emitGets rs)

theorem emitGetEs : ∀ rs : List GetResp, AllReqs P (emitGetEs rs)
  | [] => AllReqs.pure _
  | _ :: rs => AllReqs.emit _ _ (emitGetEs rs)

theorem getEnd (e : REv) (err : Option HErr) :
    AllReqs P (match err with
      | none => Rend.reply e
      | some x => (Pure.pure (.error x) : OProg (HRes Unit))) := by
  cases err
  · exact reply _
  · exact pure _

end AllReqs

theorem Std.getLoop_foot {P : Tier → Req → Prop} (t : Tier) (op : Op) : ∀ ks : List GetKey,
    (∀ g ∈ ks, P t { op := op, key := g.key }) →
    ReqsPost P (fun x => ∀ r ∈ x.1, ∃ g ∈ ks, r.key = g.key) (Std.getLoop (ε := OEv) t op ks)
  | [], _ => .pure _ fun _ hr => nomatch hr
  | g :: rest, h => by
    obtain ⟨hg, hrest⟩ := List.forall_mem_cons.mp h
    have cons : ∀ r0 : GetResp, r0.key = g.key →
        ReqsPost P (fun x => ∀ r ∈ x.1, ∃ y ∈ g :: rest, r.key = y.key)
          (do let (rs, err) ← Std.getLoop (ε := OEv) t op rest; pure (r0 :: rs, err)) := fun r0 h0 =>
      (getLoop_foot t op rest hrest).bind fun x hx => .pure _ fun r hr => by
        rcases List.mem_cons.mp hr with rfl | hr
        · exact ⟨g, List.mem_cons_self .., h0⟩
        · exact (hx r hr).imp fun _ ⟨hy, e⟩ => ⟨List.mem_cons_of_mem g hy, e⟩
    unfold Std.getLoop
    refine (ReqsPost.req _ _ hg).bind fun r _ => ?_
    split
    · exact cons _ rfl
    · exact cons _ rfl
    · exact .pure _ fun _ hr => nomatch hr

theorem Std.handler_foot (t : Tier) : (Std.handler (ε := OEv) t).Foot fun k t' r => t' = t ∧ r.key = k where
  store kind c := (Std.store_sends t kind c ⟨rfl, rfl⟩).reqs
  gat c := (Std.gat_sends t c ⟨rfl, rfl⟩).reqs
  delete _ := (Std.simple_sends t _ ⟨rfl, rfl⟩).reqs
  touch _ := (Std.simple_sends t _ ⟨rfl, rfl⟩).reqs
  get ks := Std.getLoop_foot t .get ks fun g hg => ⟨g, hg, rfl, rfl⟩
  getE ks := Std.getLoop_foot t .gete ks fun g hg => ⟨g, hg, rfl, rfl⟩

section
variable {F : Bytes → Tier → Req → Prop} {k : Bytes} {h1 h2 : Handler OEv}

theorem L1Only.step_foot (f1 : h1.Foot F) {c : Cmd} (hc : cmdKey c = some k) : AllReqs (F k) (L1Only.step h1 c) := by
  refine cmdKey_cases (motive := fun c => AllReqs (F k) (L1Only.step h1 c)) hc ?_ ?_ ?_ ?_ ?_ ?_
  · exact fun kind s hs => step_store h1 kind s ▸ .oneTier (f1.store_key kind s hs)
  · intro g gk hg hk
    exact (f1.get_key (keys_of_single hg hk)).toAll.bind fun _ => .bind (.emitGets _) fun _ => .getEnd _ _
  · intro g gk hg hk
    exact (f1.getE_key (keys_of_single hg hk)).toAll.bind fun _ => .bind (.emitGetEs _) fun _ => .getEnd _ _
  · intro kc hk
    refine .andThen (f1.gat_key kc hk) fun r => ?_
    split
    · exact .reply _
    · exact .pure _
  · exact fun kc hk => step_delete h1 kc ▸ .oneTier (f1.delete_key kc hk)
  · exact fun kc hk => step_touch h1 kc ▸ .oneTier (f1.touch_key kc hk)

theorem L1L2.splitL1_keys : ∀ (rs : List GetResp), (∀ r ∈ rs, r.key = k) →
    (∀ r ∈ (L1L2.splitL1 rs).1, r.key = k) ∧ (∀ g ∈ (L1L2.splitL1 rs).2, g.key = k)
  | [], _ => ⟨fun _ h => (nomatch h), fun _ h => (nomatch h)⟩
  | r :: rs, h => by
    obtain ⟨hr, hrs⟩ := List.forall_mem_cons.mp h
    obtain ⟨i1, i2⟩ := splitL1_keys rs hrs
    unfold L1L2.splitL1
    by_cases hm : r.miss = true
    · simp only [hm, if_true]
      exact ⟨i1, List.forall_mem_cons.mpr ⟨hr, i2⟩⟩
    · simp only [hm, Bool.false_eq_true, if_false]
      exact ⟨List.forall_mem_cons.mpr ⟨hr, i1⟩, i2⟩

theorem L1L2.backfill_foot (f1 : h1.Foot F) : ∀ (rs : List GetResp), (∀ r ∈ rs, r.key = k) →
    AllReqs (F k) (L1L2.backfill h1 rs)
  | [], _ => .pure _
  | r :: rs, h => by
    obtain ⟨hr, hrs⟩ := List.forall_mem_cons.mp h
    have fwd : AllReqs (F k) (do
        respond (.get { key := r.key, flags := r.flags, data := r.data, miss := r.miss, opq := r.opq, quiet := r.quiet })
        L1L2.backfill h1 rs) :=
      .bind (.respond _) fun _ => backfill_foot f1 rs hrs
    unfold L1L2.backfill
    split
    · exact fwd
    · refine .andThen (f1.store_key .set _ hr) fun s => ?_
      split
      · exact fwd
      · exact .andThen (f1.delete_key _ hr) fun _ => fwd

theorem getVia_foot (f1 : h1.Foot F) (g : GetCmd) (hg : ∀ x ∈ g.keys, x.key = k)
    {rest : List GetKey → Option HErr → OProg (HRes Unit)}
    (hrest : ∀ l2keys err1, (∀ x ∈ l2keys, x.key = k) → AllReqs (F k) (rest l2keys err1)) :
    AllReqs (F k) (getVia h1 g rest) := by
  refine (f1.get_key hg).bindAll fun x hx => .bind (.emitGets _) fun _ => ?_
  split
  · split
    · exact .pure _
    · exact .reply _
  · exact hrest _ _ (L1L2.splitL1_keys x.1 hx).2

theorem L1L2.get_foot (f1 : h1.Foot F) (f2 : h2.Foot F) (g : GetCmd) (hg : ∀ x ∈ g.keys, x.key = k) :
    AllReqs (F k) (L1L2.get h1 h2 g) :=
  get_eq h1 h2 g ▸ getVia_foot f1 g hg fun _ _ s2 =>
    (f2.getE_key s2).bindAll fun y hy => .andThen (backfill_foot f1 y.1 hy) fun _ => .getEnd _ _

theorem L1L2Batch.get_foot (f1 : h1.Foot F) (f2 : h2.Foot F) (g : GetCmd) (hg : ∀ x ∈ g.keys, x.key = k) :
    AllReqs (F k) (L1L2Batch.get h1 h2 g) :=
  get_eq h1 h2 g ▸ getVia_foot f1 g hg fun _ _ s2 =>
    (f2.get_key s2).toAll.bind fun _ => .bind (.emitGets _) fun _ => .getEnd _ _

theorem setComp_foot (f1 : h1.Foot F) (kind : SetKind) {s : SetCmd} (hs : s.key = k) :
    ∀ d, setComp h1 kind s = some d → AllReqs (F k) d := by
  intro d hd
  cases kind <;> cases hd
  exact f1.delete_key _ hs

theorem L1L2.step_foot (f1 : h1.Foot F) (f2 : h2.Foot F) {c : Cmd} (hc : cmdKey c = some k) :
    AllReqs (F k) (L1L2.step h1 h2 c) := by
  refine cmdKey_cases (motive := fun c => AllReqs (F k) (L1L2.step h1 h2 c)) hc ?_ ?_ ?_ ?_ ?_ ?_
  · intro kind s hs
    exact step_store h1 h2 kind s ▸ .twoTier (f2.store_key kind s hs) (f1.store_key kind s hs) (setComp_foot f1 kind hs)
  · exact fun g gk hg hk => get_foot f1 f2 g (keys_of_single hg hk)
  · exact fun g _ _ _ => .pure _
  · intro kc hk
    refine .andThen (f1.gat_key kc hk) fun r1 => ?_
    split
    · exact .pure _
    · split
      · refine .andThen (f2.gat_key kc hk) fun r2 => ?_
        split
        · exact .pure _
        · split
          · exact .reply _
          · exact .andThen (f1.store_key .add _ hk) (.ackOr (tol := (isErr · .keyExists)) (comp := none) nofun)
      · refine .andThen (f2.touch_key _ hk) fun t => ?_
        split
        · exact .pure _
        · exact .reply _
  · exact fun kc hk => step_delete h1 h2 kc ▸ .twoTier (f2.delete_key kc hk) (f1.delete_key kc hk) nofun
  · exact fun kc hk => step_touch h1 h2 kc ▸ .twoTier (f2.touch_key kc hk) (f1.touch_key kc hk) nofun

theorem L1L2Batch.step_foot (f1 : h1.Foot F) (f2 : h2.Foot F) {c : Cmd} (hc : cmdKey c = some k) :
    AllReqs (F k) (L1L2Batch.step h1 h2 c) := by
  refine cmdKey_cases (motive := fun c => AllReqs (F k) (L1L2Batch.step h1 h2 c)) hc ?_ ?_ ?_ ?_ ?_ ?_
  · intro kind s hs
    exact step_store h1 h2 kind s ▸ .twoTier (f2.store_key kind s hs) (f1.store_key _ s hs) (setComp_foot f1 kind hs)
  · exact fun g gk hg hk => get_foot f1 f2 g (keys_of_single hg hk)
  · exact fun g _ _ _ => .pure _
  · intro kc hk
    refine .andThen (f2.gat_key kc hk) fun r2 => ?_
    split
    · exact .pure _
    · split
      · exact .reply _
      · exact .andThen (f1.touch_key _ hk) (.ackOr (tol := (isErr · .keyNotFound)) (comp := none) nofun)
  · exact fun kc hk => step_delete h1 h2 kc ▸ .twoTier (f2.delete_key kc hk) (f1.delete_key kc hk) nofun
  · exact fun kc hk => step_touch h1 h2 kc ▸ .twoTier (f2.touch_key kc hk) (f1.touch_key kc hk) nofun

end

end Rend
