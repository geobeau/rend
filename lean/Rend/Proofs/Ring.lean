/-
  The ketama ring as a sorted list.  Under a total order on the labels the point order `ple` is total,
  transitive and antisymmetric, so a list of points has one sorted arrangement (`eq_mergeSort`):
  sorting forgets the order of its input and commutes with filtering.  `bucketAt` is one search on
  the ring gone round twice (`bucketAt_eq_head`), which a filter that keeps the point found does not
  disturb (`bucketAt_filter`).
-/
import Rend.Cluster.Ketama

namespace Rend.Props.C19

variable {L : Type}

/-- What the theorems need from the label comparison (Go: bytewise string comparison). -/
structure TotalOrder (lle : L → L → Bool) : Prop where
  total : ∀ a b, lle a b || lle b a
  trans : ∀ a b c, lle a b → lle b c → lle a c
  antisymm : ∀ a b, lle a b → lle b a → a = b

end Rend.Props.C19

namespace Rend.Cluster
open Rend.Props.C19 (TotalOrder)

variable {L : Type}

theorem ple_iff {lle : L → L → Bool} {a b : Point L} :
    ple lle a b = true ↔ a.1 < b.1 ∨ a.1 = b.1 ∧ lle a.2 b.2 = true := by
  simp [ple]

section order
variable {lle : L → L → Bool} (ho : TotalOrder lle)
include ho

theorem ple_total (a b : Point L) : ple lle a b || ple lle b a := by
  have := ho.total a.2 b.2
  rw [Bool.or_eq_true] at this ⊢
  rw [ple_iff, ple_iff]
  rcases Nat.lt_trichotomy a.1 b.1 with h | h | h
  · exact .inl (.inl h)
  · exact this.imp (fun t => .inr ⟨h, t⟩) (fun t => .inr ⟨h.symm, t⟩)
  · exact .inr (.inl h)

theorem ple_trans (a b c : Point L) (h1 : ple lle a b) (h2 : ple lle b c) : ple lle a c := by
  rw [ple_iff] at *
  rcases h1 with h1 | ⟨h1, h1'⟩ <;> rcases h2 with h2 | ⟨h2, h2'⟩
  · left; omega
  · left; omega
  · left; omega
  · right; exact ⟨by omega, ho.trans _ _ _ h1' h2'⟩

theorem ple_antisymm (a b : Point L) (h1 : ple lle a b) (h2 : ple lle b a) : a = b := by
  rw [ple_iff] at *
  rcases h1 with h1 | ⟨h1, h1'⟩ <;> rcases h2 with h2 | ⟨h2, h2'⟩
  · omega
  · omega
  · omega
  · exact Prod.ext h1 (ho.antisymm _ _ h1' h2')

theorem sorted_mergeSort (xs : List (Point L)) : (xs.mergeSort (ple lle)).Pairwise (fun a b => ple lle a b = true) :=
  List.pairwise_mergeSort (ple_trans ho) (ple_total ho) xs

theorem eq_mergeSort {xs ys : List (Point L)}
    (hs : ys.Pairwise (fun a b => ple lle a b = true)) (hp : ys.Perm xs) : ys = xs.mergeSort (ple lle) :=
  (hp.trans (List.mergeSort_perm xs _).symm).eq_of_pairwise
    (fun a b _ _ hab hba => ple_antisymm ho a b hab hba) hs (sorted_mergeSort ho xs)

theorem sort_perm_eq (xs ys : List (Point L)) (h : xs.Perm ys) :
    xs.mergeSort (ple lle) = ys.mergeSort (ple lle) :=
  eq_mergeSort ho (sorted_mergeSort ho xs) ((List.mergeSort_perm xs _).trans h)

theorem sort_filter (xs : List (Point L)) (f : Point L → Bool) :
    (xs.filter f).mergeSort (ple lle) = (xs.mergeSort (ple lle)).filter f :=
  (eq_mergeSort ho ((sorted_mergeSort ho xs).filter f) ((List.mergeSort_perm xs _).filter f)).symm

end order

theorem bucketAt_eq_head (r : List (Point L)) (loc : Nat) :
    bucketAt r loc = ((r.filter (fun p => decide (loc ≤ p.1)) ++ r).head?).map (·.2) := by
  unfold bucketAt
  rw [List.head?_append, List.head?_filter]
  cases r.find? (fun p => decide (loc ≤ p.1)) <;> rfl

theorem head_filter (r : List (Point L)) (f : Point L → Bool) (p : Point L)
    (h : r.head? = some p) (hf : f p = true) : (r.filter f).head? = some p := by
  obtain ⟨tl, rfl⟩ := List.head?_eq_some_iff.mp h
  rw [List.filter_cons_of_pos hf]
  rfl

theorem bucketAt_filter (r : List (Point L)) (f : Point L → Bool) (loc : Nat) (owner : L)
    (hf : ∀ p, p.2 = owner → f p = true) (hown : bucketAt r loc = some owner) :
    bucketAt (r.filter f) loc = some owner := by
  rw [bucketAt_eq_head] at hown ⊢
  obtain ⟨p, hp, rfl⟩ := Option.map_eq_some_iff.mp hown
  have : (r.filter f).filter (fun p => decide (loc ≤ p.1)) = (r.filter (fun p => decide (loc ≤ p.1))).filter f := by
    simp only [List.filter_filter, Bool.and_comm]
  rw [this, ← List.filter_append, head_filter _ f p hp (hf p rfl)]
  rfl

theorem snd_of_mem_pointsOf {md5 : Bytes → Bytes} {name : L → Bytes} {limit : Nat} {l : L} {p : Point L}
    (h : p ∈ pointsOf md5 name limit l) : p.2 = l := by
  simp only [pointsOf, List.mem_flatMap, List.mem_map, List.mem_range] at h
  obtain ⟨_, _, _, _, rfl⟩ := h
  rfl

theorem allPoints_filter [DecidableEq L] (md5 : Bytes → Bytes) (name : L → Bytes) (limit : Nat) (ls : List L) (x : L) :
    allPoints md5 name limit (ls.filter (· != x)) = (allPoints md5 name limit ls).filter (fun p => p.2 != x) := by
  unfold allPoints
  induction ls with
  | nil => rfl
  | cons a as ih =>
    simp only [List.filter_cons, List.flatMap_cons, List.filter_append]
    by_cases hax : a = x
    · subst hax
      have : (pointsOf md5 name limit a).filter (fun p => p.2 != a) = [] :=
        List.filter_eq_nil_iff.mpr fun p hp => by simp [snd_of_mem_pointsOf hp]
      simp [this, ih]
    · have : (pointsOf md5 name limit a).filter (fun p => p.2 != x) = pointsOf md5 name limit a :=
        List.filter_eq_self.mpr fun p hp => by simpa [snd_of_mem_pointsOf hp] using hax
      simp [hax, this, ih]

end Rend.Cluster
