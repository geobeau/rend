/-
  How the chunked handler lays a value out in the backend: the metadata record and its codec, the
  keys derived from the client key (distinct client keys never share an entry), the sizes, and the
  intents whose entries, and nothing else, a consistent store holds.

  Token lengths are the literal 16: the size of the tokens the model draws (`Prog.draw`; hence the
  premise of `AllReqs.draw` and the `htk` hypotheses on the token list of `Prog.eval`).  The handler
  cuts a token off with the regenerated Go constant `Gen.chunked_tokenSize`, which is unfolded where
  the two meet (as in `decode_encode`).
-/
import Rend.Handlers.Chunked
import Rend.Proofs.BytesLemmas

namespace Rend.Chunked
open Rend

structure Meta.WF (m : Meta) : Prop where
  length : m.length < 4294967296
  flags : m.origFlags < 4294967296
  num : m.numChunks < 4294967296
  size : m.chunkSize < 4294967296
  ins : m.instime < 4294967296
  exp : m.exptime < 4294967296
  tok : m.token.length = 16

theorem decode_encode (m : Meta) (h : m.WF) : decodeMeta (encodeMeta m) = m := by
  obtain ⟨h1, h2, h3, h4, h5, h6, h7⟩ := h
  -- field `i` is read at offset `4 * i`: drop the fields before it, four bytes at a time
  simp only [decodeMeta, encodeMeta, List.append_assoc, Bytes.drop_be32_append _ 0, Bytes.drop_be32_append _ 4,
    Bytes.drop_be32_append _ 8, Bytes.drop_be32_append _ 12, Bytes.drop_be32_append _ 16, Bytes.drop_be32_append _ 20,
    List.drop_zero, Bytes.rd32_be32_append, h1, h2, h3, h4, h5, h6, Gen.chunked_tokenSize,
    List.take_of_length_le (Nat.le_of_eq h7)]

theorem decDigits_no_dash (i : Nat) : (45 : UInt8) ∉ Bytes.decDigits i := fun h => by
  have := Bytes.mem_decDigits h
  simp at this

theorem append_sep_inj {α} (x : α) (a a' d d' : List α) (hd : x ∉ d) (hd' : x ∉ d')
    (h : a ++ x :: d = a' ++ x :: d') : a = a' ∧ d = d' := by
  rcases List.append_eq_append_iff.mp h with ⟨c, h1, h2⟩ | ⟨c, h1, h2⟩
  · cases c with
    | nil => simp at h1 h2; exact ⟨h1.symm, h2⟩
    | cons y ys =>
      simp only [List.cons_append, List.cons.injEq] at h2
      exact absurd (by rw [h2.2]; simp) hd
  · cases c with
    | nil => simp at h1 h2; exact ⟨h1, h2.symm⟩
    | cons y ys =>
      simp only [List.cons_append, List.cons.injEq] at h2
      exact absurd (by rw [h2.2]; simp) hd'

theorem chunkKey_inj (k k' : Bytes) (i j : Nat) (h : chunkKey k i = chunkKey k' j) : k = k' ∧ i = j := by
  simp only [chunkKey, List.append_assoc, List.singleton_append] at h
  obtain ⟨h1, h2⟩ := append_sep_inj 45 k k' _ _ (decDigits_no_dash i) (decDigits_no_dash j) h
  exact ⟨h1, Bytes.decDigits_inj h2⟩

theorem metaKey_inj (k k' : Bytes) (h : metaKey k = metaKey k') : k = k' := by
  simpa [metaKey] using h

theorem metaKey_ne_chunkKey (k k' : Bytes) (i : Nat) : metaKey k ≠ chunkKey k' i := by
  intro h
  -- the last byte: `a` against a digit
  have hne := Bytes.decDigits_ne_nil i
  have h1 : (metaKey k).getLast? = some 97 := by simp [metaKey, metaSuffix]
  have h2 : (chunkKey k' i).getLast? = some ((Bytes.decDigits i).getLast hne) := by
    rw [chunkKey, List.getLast?_append, List.getLast?_eq_some_getLast hne]; rfl
  rw [h, h2, Option.some.injEq] at h1
  have := Bytes.mem_decDigits (h1 ▸ List.getLast_mem hne)
  simp at this

theorem chunkKey_length (key : Bytes) (i : Nat) : (chunkKey key i).length = key.length + 1 + (Bytes.decDigits i).length := by
  simp only [chunkKey, List.length_append, List.length_singleton]

theorem metaKey_length (key : Bytes) : (metaKey key).length = key.length + 5 := by
  simp only [metaKey, List.length_append]
  rfl

/-- The tier plays no part: the argument makes `Derived key` a predicate that `AllReqs` takes
    (likewise `IsStoreWrite`, and `StoreReqOK` of C16). -/
def Derived (key : Bytes) (_t : Tier) (r : Req) : Prop :=
  r.op = .noop ∨ r.key = metaKey key ∨ ∃ i, r.key = chunkKey key i

theorem derived_disjoint (k k' : Bytes) (t : Tier) (r : Req) (h : Derived k t r) (h' : Derived k' t r)
    (hop : r.op ≠ .noop) : k = k' := by
  rcases h with h | h | ⟨i, h⟩
  · exact absurd h hop
  · rcases h' with h' | h' | ⟨j, h'⟩
    · exact absurd h' hop
    · exact metaKey_inj _ _ (h.symm.trans h')
    · exact absurd (h.symm.trans h') (metaKey_ne_chunkKey _ _ _)
  · rcases h' with h' | h' | ⟨j, h'⟩
    · exact absurd h' hop
    · exact absurd (h'.symm.trans h) (metaKey_ne_chunkKey _ _ _)
    · exact (chunkKey_inj _ _ _ _ (h.symm.trans h')).1

/-- `chunkSize` for every key length the protocol admits: payload = 1097 − k, entry value = 1113 − k
    (1113 = `chunkMaxSize - chunkOverhead` = 1184 − 71, folded by `gen`; 1097 = 1113 − `tokenSize`). -/
theorem sizes_eq (k : Nat) (hk : k ≤ 250) : sizes k = (1097 - k, 1113 - k) := by
  simp [sizes, Gen.chunkSize]
  constructor <;> omega

theorem chunkPayload_length (data : Bytes) (ds i : Nat) : (chunkPayload data ds i).length = ds := by
  simp only [chunkPayload, List.length_append, Bytes.zeros_length, List.length_take]
  omega

theorem numChunksExpr_toNat (n p : Nat) (hp : 0 < p) (hp32 : p < 4294967296) :
    (Gen.numChunksExpr (n : Int) (BitVec.ofNat 32 p)).toNat = (n + p - 1) / p := by
  simp [Gen.numChunksExpr, ceilDivInt, Nat.mod_eq_of_lt hp32]
  have : ((n : Int) + (p : Int) - 1) = ((n + p - 1 : Nat) : Int) := by omega
  rw [this]
  norm_cast

theorem ceilDiv_mul (n p : Nat) (hp : 0 < p) : n ≤ (n + p - 1) / p * p ∧ (n + p - 1) / p * p < n + p := by
  have h := Nat.div_add_mod (n + p - 1) p
  have hr := Nat.mod_lt (n + p - 1) hp
  rw [Nat.mul_comm]
  constructor <;> omega

/-- One complete value that some store-type command set out to write under a fresh token. -/
structure Intent where
  key   : Bytes
  token : Bytes
  data  : Bytes
  flags : Nat
  deriving DecidableEq

def Intent.ds (h : Intent) : Nat := (sizes h.key.length).1
def Intent.n (h : Intent) : Nat := (Gen.numChunksExpr (h.data.length : Int) (BitVec.ofNat 32 h.ds)).toNat
def Intent.chunkVal (h : Intent) (i : Nat) : Bytes := h.token ++ chunkPayload h.data h.ds i
def Intent.Describes (h : Intent) (m : Meta) : Prop :=
  m.token = h.token ∧ m.length = h.data.length ∧ m.origFlags = h.flags ∧ m.numChunks = h.n ∧ m.chunkSize = h.ds

/-- Every entry the store holds under a derived key is, whole, the metadata record or a numbered chunk of
    one of the intents; tokens identify intents.  Entries may be missing in any combination, and entries of
    different intents for the same key may be mixed in any way. -/
structure Consistent (s : Store) (H : List Intent) : Prop where
  metaE : ∀ key it, s (metaKey key) = some it → ∃ h ∈ H, h.key = key ∧ h.Describes (decodeMeta it.data)
  chunkE : ∀ key i it, s (chunkKey key i) = some it → ∃ h ∈ H, h.key = key ∧ it.data = h.chunkVal i
  tokens : ∀ h ∈ H, ∀ h' ∈ H, h.token = h'.token → h = h'
  toklen : ∀ h ∈ H, h.token.length = 16
  keylen : ∀ h ∈ H, h.key.length ≤ 250

/-- 847 = 1097 − 250: the payload under the longest key. -/
theorem Intent.ds_bounds (h : Intent) (hk : h.key.length ≤ 250) : 847 ≤ h.ds ∧ h.ds ≤ 1097 := by
  simp only [Intent.ds, sizes_eq _ hk]
  omega

theorem Intent.n_spec (h : Intent) (hk : h.key.length ≤ 250) :
    h.data.length ≤ h.n * h.ds ∧ h.n * h.ds < h.data.length + h.ds := by
  have hds := h.ds_bounds hk
  rw [Intent.n, numChunksExpr_toNat _ _ (by omega) (by omega)]
  exact ceilDiv_mul _ _ (by omega)

theorem Intent.n_lt (h : Intent) (hk : h.key.length ≤ 250) (hd : h.data.length < 4294967296) : h.n < 4294967296 := by
  have h1 := h.n_spec hk
  have h2 := h.ds_bounds hk
  have h3 : h.n * 847 ≤ h.n * h.ds := Nat.mul_le_mul_left _ h2.1
  omega

/-- The record `md` that `setCommon` writes, given the token it drew. -/
def setMeta (now : Nat) (c : SetCmd) (token : Bytes) : Meta :=
  { length := c.data.length, origFlags := c.flags,
    numChunks := (Gen.numChunksExpr (c.data.length : Int) (BitVec.ofNat 32 (sizes c.key.length).1)).toNat,
    chunkSize := (sizes c.key.length).1, instime := now % 4294967296,
    exptime := (Gen.exptime (now : Int) (BitVec.ofNat 32 c.exptime)).1.toNat, token := token }

def intentOf (c : SetCmd) (token : Bytes) : Intent := ⟨c.key, token, c.data, c.flags⟩

theorem setMeta_describes (now : Nat) (c : SetCmd) (token : Bytes) : (intentOf c token).Describes (setMeta now c token) :=
  ⟨rfl, rfl, rfl, rfl, rfl⟩

theorem setMeta_wf (now : Nat) (c : SetCmd) (token : Bytes) (hkey : c.key.length ≤ 250) (hd : c.data.length < 4294967296)
    (hf : c.flags < 4294967296) (ht : token.length = 16) : (setMeta now c token).WF :=
  ⟨hd, hf, (intentOf c token).n_lt hkey hd, Nat.lt_of_le_of_lt ((intentOf c token).ds_bounds hkey).2 (by decide),
    Nat.mod_lt _ (by decide), (Gen.exptime (now : Int) (BitVec.ofNat 32 c.exptime)).1.isLt, ht⟩

/-- The request `writeChunks` sends for chunk `i`. -/
def chunkSet (c : SetCmd) (token : Bytes) (i : Nat) : Req :=
  { op := .set, key := chunkKey c.key i, flags := c.flags, exptime := c.exptime,
    value := token ++ chunkPayload c.data (sizes c.key.length).1 i }

end Rend.Chunked
