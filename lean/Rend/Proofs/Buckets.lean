/-
  The bucket tables of metrics/histograms.go in closed form, `getBucket` as a function on naturals
  (`bucketIdx`), and the 64-bit operations of `getBucket` one by one on a variable operand: none
  wraps.  The two tables are literal data in the Go source, which says they were generated by
  Spectator's PercentileBuckets; `bucketValue` is that generating rule.  `bucketValues_eq` and
  `powerOf4Index_eq` compare the rule with the tables as regenerated from the source on every run,
  so a changed entry fails them.
-/
import Rend.Gen.Tables

namespace Rend.Metrics
open Rend.Gen

/-- 1..14, then for every power of four 4^k, k = 2..30, the nine values 4^k + j * (4^k / 3), then
    2^63 - 1: entry `i ≥ 14` has k = (i + 4) / 9 and j = (i + 4) % 9, so 4^k sits at index 9k - 4. -/
def bucketValue (i : Nat) : Nat :=
  if i < 14 then i + 1 else if i = 275 then 2 ^ 63 - 1
  else 4 ^ ((i + 4) / 9) + (i + 4) % 9 * (4 ^ ((i + 4) / 9) / 3)

theorem bucketValues_eq : bucketValues = (List.range 276).map bucketValue := by decide +kernel

theorem powerOf4Index_eq : powerOf4Index = 0 :: 3 :: (List.range 30).map (9 * · + 14) := by decide

theorem bucketValues_getD {i : Nat} (h : i < 276) : bucketValues.getD i 0 = bucketValue i := by
  simp [bucketValues_eq, h]

theorem powerOf4Index_getD {k : Nat} (h2 : 2 ≤ k) (h : k < 32) : powerOf4Index.getD k 0 = 9 * k - 4 := by
  obtain ⟨j, rfl⟩ : ∃ j, k = j + 2 := ⟨k - 2, by omega⟩
  simp [powerOf4Index_eq, show j < 30 by omega]
  omega

/-- The k of the largest power of four 4^k ≤ x. -/
def band (x : Nat) : Nat := x.log2 / 2

def bandStep (x : Nat) : Nat := (x - 4 ^ band x) / (4 ^ band x / 3)

/-- What `getBucket` computes, on naturals: below 16 the value itself; from there on band k
    starts at index 9k - 3. -/
def bucketIdx (x : Nat) : Nat :=
  if x < 16 then x else min 275 (9 * band x + bandStep x - 3)

theorem four_pow (k : Nat) : 4 ^ k = 2 ^ (2 * k) := by rw [Nat.pow_mul]

theorem two_pow_even (r : Nat) : 2 ^ (r - r % 2) = 4 ^ (r / 2) := by
  rw [four_pow]
  congr 1
  omega

theorem band_mono {x y : Nat} (hx : x ≠ 0) (h : x ≤ y) : band x ≤ band y :=
  Nat.div_le_div_right <| (Nat.le_log2 (by omega)).mpr (Nat.le_trans (Nat.log2_self_le hx) h)

theorem two_le_band {x : Nat} (h : 16 ≤ x) : 2 ≤ band x :=
  band_mono (x := 16) (by decide) h

theorem lt_next_band (x : Nat) : x < 4 ^ (band x + 1) := by
  rw [four_pow]
  exact Nat.lt_of_lt_of_le Nat.lt_log2_self (Nat.pow_le_pow_right (by decide) (by unfold band; omega))

/-- A band has nine full steps and three values over, since 3 * (4^k / 3) = 4^k - 1. -/
theorem bandStep_le {x : Nat} (h : 16 ≤ x) : bandStep x ≤ 9 := by
  have hhi := lt_next_band x
  have h16 : 4 ^ 2 ≤ 4 ^ band x := Nat.pow_le_pow_right (by decide) (two_le_band h)
  have h3 : 4 ^ band x % 3 = 1 := by rw [Nat.pow_mod]; simp
  rw [Nat.pow_succ] at hhi
  unfold bandStep
  exact Nat.le_of_lt_succ ((Nat.div_lt_iff_lt_mul (by omega)).mpr (by omega))

theorem bandStep_mono {x y : Nat} (h : x ≤ y) (hb : band x = band y) : bandStep x ≤ bandStep y := by
  unfold bandStep
  rw [hb]
  exact Nat.div_le_div_right (Nat.sub_le_sub_right h _)

theorem lt_next_step {x : Nat} (h : 16 ≤ x) : x < 4 ^ band x + (bandStep x + 1) * (4 ^ band x / 3) := by
  have h16 : 4 ^ 2 ≤ 4 ^ band x := Nat.pow_le_pow_right (by decide) (two_le_band h)
  have := Nat.lt_div_mul_add (a := x - 4 ^ band x) (b := 4 ^ band x / 3) (by omega)
  rw [Nat.add_mul, bandStep]
  omega

theorem bucketIdx_le (x : Nat) : bucketIdx x ≤ 275 := by
  unfold bucketIdx; split <;> omega

theorem bucketIdx_mono {x y : Nat} (h : x ≤ y) : bucketIdx x ≤ bucketIdx y := by
  unfold bucketIdx
  by_cases hy : y < 16
  · rw [if_pos hy, if_pos (by omega)]; exact h
  have hk := two_le_band (x := y) (by omega)
  rw [if_neg hy]
  by_cases hx : x < 16
  · rw [if_pos hx]; omega
  rw [if_neg hx]
  rcases Nat.lt_or_eq_of_le (band_mono (by omega) h) with hb | hb
  · -- a lower band has at most 9 steps and the next starts 9 on
    have hq := bandStep_le (x := x) (by omega)
    omega
  · have hq := bandStep_mono h hb
    omega

theorem le_bucketValue {x : Nat} (hx : x ≤ 2 ^ 63 - 1) : x ≤ bucketValue (bucketIdx x) := by
  unfold bucketIdx
  split
  next h =>
    by_cases h14 : x < 14
    · rw [bucketValue, if_pos h14]; omega
    · obtain rfl | rfl : x = 14 ∨ x = 15 := by omega
      all_goals decide
  next h =>
    have hk := two_le_band (x := x) (by omega)
    have hq := bandStep_le (x := x) (by omega)
    by_cases h275 : 275 ≤ 9 * band x + bandStep x - 3
    · rw [Nat.min_eq_left h275]; exact hx
    rw [Nat.min_eq_right (by omega), bucketValue, if_neg (by omega), if_neg (by omega)]
    -- index 9k + q - 3 is entry q + 1 of band k, or entry q - 8 of band k + 1
    rcases Nat.lt_or_ge (bandStep x) 8 with h8 | h8
    · rw [show (9 * band x + bandStep x - 3 + 4) / 9 = band x by omega,
        show (9 * band x + bandStep x - 3 + 4) % 9 = bandStep x + 1 by omega]
      exact Nat.le_of_lt (lt_next_step (by omega))
    · rw [show (9 * band x + bandStep x - 3 + 4) / 9 = band x + 1 by omega]
      exact Nat.le_trans (Nat.le_of_lt (lt_next_band x)) (Nat.le_add_right _ _)

theorem toNat_ofNat_of_lt {w x : Nat} (h : x < 2 ^ w) : (BitVec.ofNat w x).toNat = x := by
  rw [BitVec.toNat_ofNat, Nat.mod_eq_of_lt h]

/-- `rshift := 64 - lzcnt(n) - 1`: on a count `c = 63 - r` neither subtraction wraps, and `r` is left. -/
theorem sub_lzcnt_sub_one {c : BitVec 64} {r : Nat} (hr : r ≤ 63) (hc : c.toNat = 63 - r) :
    64#64 - c - 1#64 = BitVec.ofNat 64 r := by
  apply BitVec.eq_of_toNat_eq
  rw [BitVec.toNat_sub, BitVec.toNat_sub, hc, BitVec.toNat_ofNat, BitVec.toNat_ofNat, BitVec.toNat_ofNat]
  omega

/-- `if lshift&1 == 1 { lshift-- }` rounds a shift amount down to even.  Evaluated for each of the 64
    amounts: an argument for a variable amount, through `&&&`, is several times as long. -/
theorem dec_if_odd : ∀ r : Fin 64,
    (if (BitVec.ofNat 64 r.val &&& 1#64 == 1#64) = true then BitVec.ofNat 64 r.val - 1#64 else BitVec.ofNat 64 r.val)
      = BitVec.ofNat 64 (r.val - r.val % 2) := by
  decide +kernel

/-- `prevPowerOf4 := (n >> rshift) << lshift`, where `n >> rshift` is `1` (`shr_top`: `rshift` is the position of
    the top bit). -/
theorem one_shiftLeft_toNat {e : Nat} (he : e < 64) : (1#64 <<< e).toNat = 2 ^ e := by
  rw [← BitVec.twoPow_eq, BitVec.toNat_twoPow_of_lt he]

/-- `int(lshift / 2)`, the index into `powerOf4Index`. -/
theorem half_toNat {e : Nat} (he : e < 64) : ((BitVec.ofNat 64 e / 2#64).toNat : Int).toNat = e / 2 := by
  rw [Int.toNat_natCast, BitVec.toNat_udiv, toNat_ofNat_of_lt (by omega)]
  rfl

/-- The offset within the band is below 2^63, so reading it as a signed number changes nothing. -/
theorem offset_toInt (n p : BitVec 64) (hp : p.toNat ≤ n.toNat) (h6 : 6 ≤ p.toNat) :
    ((n - p) / (p / 3#64)).toInt = (((n.toNat - p.toNat) / (p.toNat / 3) : Nat) : Int) := by
  have hn := n.isLt
  have hq : ((n - p) / (p / 3#64)).toNat = (n.toNat - p.toNat) / (p.toNat / 3) := by
    rw [BitVec.toNat_udiv, BitVec.toNat_udiv, BitVec.toNat_sub]
    show (2 ^ 64 - p.toNat + n.toNat) % 2 ^ 64 / (p.toNat / 3) = _
    congr 1; omega
  have := Nat.div_le_div_left (a := n.toNat - p.toNat) (show 2 ≤ p.toNat / 3 by omega) (by decide)
  rw [BitVec.toInt_eq_toNat_cond, hq, if_pos (by omega)]

/-- The closing clamp at 275, on a position that is a sum of naturals. -/
theorem bucket_pos (q ix : Nat) :
    (if decide ((q : Int) + (ix : Int) ≥ 275) = true then 275#64 else BitVec.ofInt 64 ((q : Int) + (ix : Int) + 1)).toNat
      = min 275 (q + ix + 1) := by
  simp only [decide_eq_true_eq]
  split
  next h => show 275 = _; omega
  next h => rw [BitVec.toNat_ofInt]; omega

end Rend.Metrics
