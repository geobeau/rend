/-
  A request line of the text protocol is a first word and further words, each preceded by one space
  (`spaced`); such a line, ended by CRLF, is read back as exactly its words (`readLine_spaced`).
  Decimal fields are parsed back to their numbers.
-/
import Rend.Wire.TextParse
import Rend.Wire.Encode
import Rend.Proofs.WireLemmas

namespace Rend.Wire
open Rend

/-- A byte that is neither white space nor part of a multi-byte rune: printable ASCII. -/
def Printable (b : UInt8) : Prop := 33 ≤ b.toNat ∧ b.toNat ≤ 126

theorem toNat_charOfNat_byte (b : UInt8) : (Char.ofNat b.toNat).toNat = b.toNat := by
  have := b.toNat_lt
  rw [Char.ofNat, dif_pos (Or.inl (by omega))]
  simp [Char.ofNatAux, Char.toNat]

theorem foldl_decDigits (n : Nat) : (Bytes.decDigits n).foldl (fun acc c => acc * 10 + (c.toNat - 48)) 0 = n := by
  -- core's round trip on digit characters, carried over to the bytes
  have h := Nat.ofDigitChars_ten_toDigits (n := n)
  rw [← Bytes.map_ofNat_decDigits, Nat.ofDigitChars_eq_foldl, List.foldl_map] at h
  simpa [Nat.mul_comm, toNat_charOfNat_byte] using h

theorem parseUint32_decDigits (n : Nat) (h : n < 4294967296) : parseUint32 (Bytes.decDigits n) = some n := by
  have hall : (Bytes.decDigits n).all (fun c => decide (48 ≤ c.toNat) && decide (c.toNat ≤ 57)) = true :=
    List.all_eq_true.mpr fun b hb => by simpa using Bytes.mem_decDigits hb
  simp [parseUint32, Bytes.decDigits_ne_nil, hall, foldl_decDigits, h]

theorem parseUint32_lt {b : Bytes} {v : Nat} (h : parseUint32 b = some v) : v < 4294967296 := by
  simp only [parseUint32, Option.ite_none_left_eq_some, Option.ite_none_right_eq_some, Option.some.injEq] at h
  obtain ⟨-, -, hlt, rfl⟩ := h
  exact hlt

theorem splitSpace_go_append (cur a rest : Bytes) (ha : ∀ b ∈ a, b ≠ 32) :
    splitSpace.go cur (a ++ rest) = splitSpace.go (a.reverse ++ cur) rest := by
  induction a generalizing cur with
  | nil => rfl
  | cons x xs ih =>
    rw [List.cons_append, splitSpace.go, if_neg (ha x List.mem_cons_self),
      ih _ fun b hb => ha b (List.mem_cons_of_mem _ hb), List.reverse_cons, List.append_assoc]
    rfl

theorem splitSpace_cons (a rest : Bytes) (ha : ∀ b ∈ a, b ≠ 32) :
    splitSpace (a ++ 32 :: rest) = a :: splitSpace rest := by
  rw [splitSpace, splitSpace_go_append [] a _ ha, splitSpace.go, if_pos rfl, List.append_nil, List.reverse_reverse]
  rfl

theorem splitSpace_last (a : Bytes) (ha : ∀ b ∈ a, b ≠ 32) : splitSpace a = [a] := by
  have := splitSpace_go_append [] a [] ha
  rwa [List.append_nil, List.append_nil, splitSpace.go, List.reverse_reverse] at this

theorem readLine_go (acc a rest : Bytes) (ha : ∀ b ∈ a, b ≠ 10) :
    readLine.go acc (a ++ 10 :: rest) = some (acc.reverse ++ a ++ [10], rest) := by
  induction a generalizing acc with
  | nil => simp [readLine.go]
  | cons x xs ih =>
    have hx : x ≠ 10 := ha x (List.mem_cons_self)
    simp only [List.cons_append, readLine.go, hx, if_false]
    rw [ih (x :: acc) (fun b hb => ha b (List.mem_cons_of_mem _ hb))]
    simp

theorem readLine_ok (a rest : Bytes) (ha : ∀ b ∈ a, b ≠ 10) : readLine (a ++ 10 :: rest) = some (a ++ [10], rest) := by
  unfold readLine
  rw [readLine_go [] a rest ha]; simp

theorem readLine_some {inp line rest : Bytes} (h : readLine inp = some (line, rest)) : rest.length < inp.length := by
  have key : ∀ (acc inp : Bytes), readLine.go acc inp = some (line, rest) → rest.length < inp.length := by
    intro acc inp
    induction inp generalizing acc with
    | nil => intro h; cases h
    | cons x xs ih =>
      intro h
      simp only [readLine.go] at h
      split at h
      · cases h
        exact Nat.lt_succ_self _
      · exact Nat.lt_succ_of_lt (ih _ h)
  exact key [] inp h

theorem decodeRune_ascii (x : UInt8) (t : Bytes) (h : x.toNat < 128) : decodeRune (x :: t) = (x.toNat, 1) := by
  simp [decodeRune, h]

theorem decodeLastRune_ascii (b : Bytes) (x : UInt8) (h : x.toNat < 128) : decodeLastRune (b ++ [x]) = (x.toNat, 1) := by
  simp [decodeLastRune, h]

theorem Printable.lt {x : UInt8} (h : Printable x) : x.toNat < 128 :=
  Nat.lt_of_le_of_lt h.2 (by decide)

theorem Printable.not_space {x : UInt8} (h : Printable x) : isSpaceRune x.toNat = false := by
  obtain ⟨h1, h2⟩ := h
  simp [isSpaceRune]
  omega

theorem Printable.ne {c d : UInt8} (h : Printable c) (hd : d.toNat < 33) : c ≠ d := by
  rintro rfl
  exact absurd h.1 (Nat.not_le.mpr hd)

theorem trimLeft_printable (fuel : Nat) (x : UInt8) (t : Bytes) (hx : Printable x) : trimLeft (fuel + 1) (x :: t) = x :: t := by
  rw [trimLeft, decodeRune_ascii x t hx.lt]
  simp [hx.not_space]

theorem trimRight_strip (fuel : Nat) (b : Bytes) (x : UInt8) (hx : x.toNat < 128) (hs : isSpaceRune x.toNat = true) :
    trimRight (fuel + 1) (b ++ [x]) = trimRight fuel b := by
  rw [trimRight, decodeLastRune_ascii b x hx]
  simp [hs]

theorem trimRight_stop (fuel : Nat) (b : Bytes) (y : UInt8) (hy : Printable y) :
    trimRight (fuel + 1) (b ++ [y]) = b ++ [y] := by
  rw [trimRight, decodeLastRune_ascii b y hy.lt]
  simp [hy.not_space]

theorem trimSpace_crlf_ends {b : Bytes} {x y : UInt8} (hh : b.head? = some x) (hl : b.getLast? = some y)
    (hx : Printable x) (hy : Printable y) : trimSpace (b ++ [13, 10]) = b := by
  obtain ⟨t, rfl⟩ := List.head?_eq_some_iff.mp hh
  obtain ⟨pre, hpre⟩ := List.getLast?_eq_some_iff.mp hl
  -- the left trim stops at once at the printable `x`; the right trim strips LF, then CR, and stops at `y`.
  -- `hfuel` and `hsplit` only bring fuel and line into the forms `fuel + 1`, `_ ++ [c]` that these steps rewrite
  have hfuel : (x :: t ++ [13, 10]).length + 1 = t.length + 1 + 1 + 1 + 1 := by simp
  have hsplit : pre ++ [y] ++ [13, 10] = pre ++ [y] ++ [13] ++ [10] := by simp
  unfold trimSpace
  rw [hfuel, List.cons_append, trimLeft_printable _ x _ hx, ← List.cons_append, hpre, hsplit,
    trimRight_strip _ _ 10 (by decide) (by decide), trimRight_strip _ _ 13 (by decide) (by decide),
    trimRight_stop _ _ y hy]

theorem trimSpace_crlf1 (x : UInt8) (hx : Printable x) : trimSpace ([x] ++ [13, 10]) = [x] :=
  trimSpace_crlf_ends rfl rfl hx hx

theorem trimSpace_id (b : Bytes) (hne : b ≠ []) (hall : ∀ c ∈ b, Printable c) : trimSpace b = b := by
  obtain ⟨x, t, rfl⟩ := List.exists_cons_of_ne_nil hne
  rw [trimSpace, List.length_cons, trimLeft_printable _ x t (hall x List.mem_cons_self),
    ← List.dropLast_concat_getLast hne]
  exact trimRight_stop _ _ _ (hall _ (List.getLast_mem hne))

theorem digit_printable (n : Nat) : ∀ c ∈ Bytes.decDigits n, Printable c := by
  intro c hc
  have := Bytes.mem_decDigits hc
  exact ⟨by omega, by omega⟩

theorem parseUint32_trim_decDigits (n : Nat) (h : n < 4294967296) :
    parseUint32 (trimSpace (Bytes.decDigits n)) = some n := by
  rw [trimSpace_id _ (Bytes.decDigits_ne_nil n) (digit_printable n), parseUint32_decDigits n h]

def spaced (w : Bytes) (ws : List Bytes) : Bytes := w ++ ws.flatMap (32 :: ·)

theorem spaced_cons (w v : Bytes) (vs : List Bytes) : spaced w (v :: vs) = w ++ 32 :: spaced v vs := by
  simp [spaced]

theorem splitSpace_spaced (w : Bytes) (ws : List Bytes) (h : ∀ v ∈ w :: ws, ∀ b ∈ v, b ≠ 32) :
    splitSpace (spaced w ws) = w :: ws := by
  induction ws generalizing w with
  | nil => simpa [spaced] using splitSpace_last w (h w List.mem_cons_self)
  | cons v vs ih =>
    rw [spaced_cons, splitSpace_cons w _ (h w List.mem_cons_self), ih v fun u hu => h u (List.mem_cons_of_mem _ hu)]

theorem spaced_ne {w : Bytes} {ws : List Bytes} (hp : ∀ v ∈ w :: ws, ∀ b ∈ v, Printable b) {d : UInt8}
    (hd : d.toNat < 32) : ∀ b ∈ spaced w ws, b ≠ d := by
  intro b hb
  simp only [spaced, List.mem_append, List.mem_flatMap, List.mem_cons] at hb
  rcases hb with h | ⟨v, hv, rfl | h⟩
  · exact (hp w (.head _) b h).ne (Nat.lt_succ_of_lt hd)
  · rintro rfl
    exact absurd hd (by decide)
  · exact (hp v (.tail _ hv) b h).ne (Nat.lt_succ_of_lt hd)

theorem getLast?_spaced {w : Bytes} {ws : List Bytes} {z : Bytes} {y : UInt8}
    (hz : (w :: ws).getLast? = some z) (hy : z.getLast? = some y) : (spaced w ws).getLast? = some y := by
  induction ws generalizing w with
  | nil =>
    cases hz
    simpa [spaced] using hy
  | cons v vs ih =>
    rw [spaced_cons, List.getLast?_append, List.getLast?_cons, ih (by rwa [List.getLast?_cons_cons] at hz)]
    rfl

/-- `hw`, `hlast`: an empty first or last word would put a space at an end of the line, and
    `trimSpace` would take it away. -/
theorem readLine_spaced (w : Bytes) (ws : List Bytes) (rest : Bytes)
    (hp : ∀ v ∈ w :: ws, ∀ b ∈ v, Printable b) (hw : w ≠ []) (hlast : ∀ z, (w :: ws).getLast? = some z → z ≠ []) :
    ∃ line, readLine (spaced w ws ++ 13 :: 10 :: rest) = some (line, rest) ∧ splitSpace (trimSpace line) = w :: ws := by
  have hnolf : ∀ b ∈ spaced w ws ++ [13], b ≠ 10 := by
    intro b hb
    rcases List.mem_append.mp hb with h | h
    · exact spaced_ne hp (by decide) b h
    · cases List.mem_singleton.mp h
      decide
  refine ⟨spaced w ws ++ [13, 10], by simpa using readLine_ok _ rest hnolf, ?_⟩
  obtain ⟨x, t, rfl⟩ := List.exists_cons_of_ne_nil hw
  obtain ⟨z, hz⟩ : ∃ z, ((x :: t) :: ws).getLast? = some z := ⟨_, List.getLast?_cons⟩
  obtain ⟨y, hy⟩ : ∃ y, z.getLast? = some y := ⟨_, List.getLast?_eq_some_getLast (hlast z hz)⟩
  rw [trimSpace_crlf_ends (x := x) rfl (getLast?_spaced hz hy) (hp _ List.mem_cons_self x List.mem_cons_self)
      (hp z (List.mem_of_getLast? hz) y (List.mem_of_getLast? hy)),
    splitSpace_spaced _ ws fun v hv b hb => (hp v hv b hb).ne (by decide)]

theorem commandWord_ok :
    ∀ w ∈ [wSet, wAdd, wReplace, wAppend, wPrepend, wGet, wDelete, wTouch, wNoop, wQuit, wVersion, wStats],
      w ≠ [] ∧ ∀ b ∈ w, Printable b := by
  unfold Printable
  decide

theorem storeWord_ok (k : SetKind) : storeWord k ≠ [] ∧ ∀ b ∈ storeWord k, Printable b := by
  cases k <;> exact commandWord_ok _ (by decide)

/-- The first five tests of `textParse` select the store command whose word heads the line. -/
theorem storeWord_chain (k : SetKind) (f : SetKind → PRes) (x : PRes) :
    (if storeWord k = wSet then f .set else if storeWord k = wAdd then f .add
     else if storeWord k = wReplace then f .replace else if storeWord k = wAppend then f .append
     else if storeWord k = wPrepend then f .prepend else x) = f k := by
  cases k <;> rfl

theorem textSet_ok (k : SetKind) (w key data rest : Bytes) (fl ex : Nat) (hf : fl < 4294967296) (he : ex < 4294967296)
    (hl : data.length < 4294967296) :
    textSet k [w, key, Bytes.decDigits fl, Bytes.decDigits ex, Bytes.decDigits data.length] (data ++ 13 :: 10 :: rest) =
      { cmd := some (.store k { key := key, flags := fl, exptime := ex, data := data }),
        rt := k.reqType, rest := rest, alloc := data.length } := by
  have hcrlf : readLine (13 :: 10 :: rest) = some ([13, 10], rest) := readLine_ok [13] rest (by simp)
  simp only [textSet, parseUint32_trim_decDigits _ hf, parseUint32_trim_decDigits _ he, parseUint32_trim_decDigits _ hl,
    readN_append, hcrlf]

end Rend.Wire
