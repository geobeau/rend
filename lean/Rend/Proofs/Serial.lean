/-
  The reduction of C03 for critical sections on ONE KEY: every backend request of a section
  addresses the section's own key (in either tier), the stripe is a function of the key.  The
  scheduler semantics `Step1` / `Exec` is defined here; the theorems are the case of
  SerialFootT.lean in which a section's footprint is its key in both tiers (`Thread.toT`).  The
  vocabulary by keys (`Ref`, `seqRun`, `seqObs`, `seqEnd`, `Inv'`) is kept and shown to be the
  location form at such footprints (`seqRunT_toT`, `seqObsT_toT`, `seqEndT_toT`, `InvT.toInv'`).
-/
import Rend.Proofs.SerialFootT

namespace Rend.Conc
open Rend

/-- `FootLocalT` of the key in both tiers (`keyLocal_eq`). -/
def KeyLocal (k : Bytes) : Tier → Req → Prop := fun _ r => r.key = k ∨ r.op = .noop

/-- Primed because `at` is a keyword. -/
def at' (w : World) (k : Bytes) : Option Item × Option Item := (w.l1 k, w.l2 k)

theorem at'_congr {w w' : World} {k : Bytes} : at' w k = at' w' k ↔ ∀ t, atT w (t, k) = atT w' (t, k) := by
  simp only [at', Prod.mk.injEq]
  constructor
  · intro h t
    cases t
    · exact h.1
    · exact h.2
  · exact fun h => ⟨h .l1, h .l2⟩

theorem look_congr (s s' : Store) (now : Nat) (k : Bytes) (h : s k = s' k) : s.look now k = s'.look now k :=
  Store.look_congr now h

theorem exec_other (now : Nat) (s : Store) (r : Req) (k k' : Bytes) (h : r.key = k ∨ r.op = .noop) (hk : k' ≠ k) :
    (Mc.exec now s r).1 k' = s k' :=
  exec_otherF now s r (· = k) k' h hk

theorem exec_same (now : Nat) (s s' : Store) (r : Req) (k : Bytes) (h : r.key = k ∨ r.op = .noop) (hs : s k = s' k) :
    (Mc.exec now s r).2 = (Mc.exec now s' r).2 ∧ (Mc.exec now s r).1 k = (Mc.exec now s' r).1 k :=
  have ⟨a, b⟩ := exec_sameF now s s' r (· = k) h fun _ e => e ▸ hs
  ⟨a, b k rfl⟩

theorem put_other (now : Nat) (w : World) (t : Tier) (r : Req) (k k' : Bytes) (h : r.key = k ∨ r.op = .noop)
    (hk : k' ≠ k) : at' (w.put t (Mc.exec now (w.get t) r).1) k' = at' w k' :=
  at'_congr.mpr fun t' => put_otherT now w t r (fun l => l.2 = k) (t', k') h hk

theorem eval_same {ε α : Type} (now : Nat) (k : Bytes) {p : Prog ε α} (hp : AllReqs (KeyLocal k) p) :
    ∀ (w w' : World), at' w k = at' w' k →
      (p.eval now w []).1 = (p.eval now w' []).1 ∧ (p.eval now w []).2.1 = (p.eval now w' []).2.1 ∧
      at' (p.eval now w []).2.2.1 k = at' (p.eval now w' []).2.2.1 k := by
  intro w w' h
  obtain ⟨a, b, c⟩ := eval_sameT now (fun l => l.2 = k) hp w w' fun l hl => at'_congr.mp (hl.symm ▸ h) l.1
  exact ⟨a, b, at'_congr.mpr fun t => c (t, k) rfl⟩

theorem world_ext (w w' : World) (h : ∀ k, at' w k = at' w' k) : w = w' :=
  world_extT w w' fun l => at'_congr.mp (h l.2) l.1

theorem eval_nil_tk {ε α : Type} (now : Nat) : ∀ (p : Prog ε α) (w : World), (p.eval now w []).2.2.2 = []
  | .ret a, w => rfl
  | .call t r k, w => by simp only [Prog.eval]; exact eval_nil_tk now _ _
  | .draw k, w => by simp only [Prog.eval]; exact eval_nil_tk now _ _
  | .emit e p, w => by simp only [Prog.eval]; exact eval_nil_tk now p w

/-- `ThreadT` for a command that works on one key, in both tiers (`Thread.toT`). -/
structure Thread (α : Type) where
  key : Bytes
  stripe : Nat
  body : Prog OEv α

/-- One scheduling step under exclusive stripe locks: `StepWith` for `exclAdm`, written out
    (`step1_iff`). -/
inductive Step1 {α : Type} (now : Nat) (thr : Nat → Thread α) : Conf α → Step → Conf α → Prop where
  | acq (c : Conf α) (i : Nat) : c.ts i = .idle →
      (∀ j p evs, c.ts j = .running p evs → (thr j).stripe ≠ (thr i).stripe) →
      Step1 now thr c (.acq i) (c.set i (.running (thr i).body []))
  | call (c : Conf α) (i : Nat) (t : Tier) (r : Req) (k : Resp → Prog OEv α) (evs : List OEv) :
      c.ts i = .running (.call t r k) evs →
      Step1 now thr c (.act i)
        (Conf.set { w := c.w.put t (Mc.exec now (c.w.get t) r).1, ts := c.ts } i
          (.running (k (Mc.exec now (c.w.get t) r).2) evs))
  | emit (c : Conf α) (i : Nat) (e : OEv) (p : Prog OEv α) (evs : List OEv) :
      c.ts i = .running (.emit e p) evs → Step1 now thr c (.act i) (c.set i (.running p (evs ++ [e])))
  | draw (c : Conf α) (i : Nat) (k : Bytes → Prog OEv α) (evs : List OEv) :
      c.ts i = .running (.draw k) evs → Step1 now thr c (.act i) (c.set i (.running (k (Bytes.zeros 16)) evs))
  | rel (c : Conf α) (i : Nat) (a : α) (evs : List OEv) :
      c.ts i = .running (.ret a) evs → Step1 now thr c (.rel i) (c.set i (.done a evs))

/-- `ExecWith`, written out (`exec_iff`). -/
inductive Exec {α : Type} (now : Nat) (thr : Nat → Thread α) : Conf α → List Step → Conf α → Prop where
  | nil (c : Conf α) : Exec now thr c [] c
  | cons (c c' c'' : Conf α) (s : Step) (rest : List Step) : Step1 now thr c s c' → Exec now thr c' rest c'' →
      Exec now thr c (s :: rest) c''

theorem step1_iff {α : Type} {now : Nat} {thr : Nat → Thread α} {c c' : Conf α} {s : Step} :
    Step1 now thr c s c' ↔ StepWith now (fun i => (thr i).body) (exclAdm fun i => (thr i).stripe) c s c' :=
  ⟨fun h => by cases h <;> constructor <;> assumption, fun h => by cases h <;> constructor <;> assumption⟩

theorem exec_iff {α : Type} {now : Nat} {thr : Nat → Thread α} {c c' : Conf α} {sched : List Step} :
    Exec now thr c sched c' ↔ ExecWith now (fun i => (thr i).body) (exclAdm fun i => (thr i).stripe) c sched c' := by
  constructor
  · intro h
    induction h with
    | nil c => exact .nil c
    | cons c d e s rest hs _ ih => exact .cons c d e s rest (step1_iff.mp hs) ih
  · intro h
    induction h with
    | nil c => exact .nil c
    | cons c d e s rest hs _ ih => exact .cons c d e s rest (step1_iff.mpr hs) ih

def Thread.toT {α : Type} (t : Thread α) : ThreadT α :=
  { foot := fun l => l.2 = t.key, stripe := t.stripe, body := t.body }

/-- By definition: hypotheses on a section's requests pass between the two forms as they are. -/
theorem keyLocal_eq (k : Bytes) : KeyLocal k = FootLocalT fun l => l.2 = k := rfl

theorem Exec.toT {α : Type} {now : Nat} {thr : Nat → Thread α} {c c' : Conf α} {sched : List Step}
    (h : Exec now thr c sched c') : ExecT now (fun i => (thr i).toT) c sched c' :=
  execT_iff.mpr (exec_iff.mp h)

structure Ref (α : Type) where
  w : World
  res : Nat → Option (α × List OEv)

def Ref.runOne {α : Type} (now : Nat) (thr : Nat → Thread α) (r : Ref α) (i : Nat) : Ref α :=
  { w := ((thr i).body.eval now r.w []).2.2.1,
    res := fun j => if j = i then some (((thr i).body.eval now r.w []).1, ((thr i).body.eval now r.w []).2.1) else r.res j }

def seqRun {α : Type} (now : Nat) (thr : Nat → Thread α) (r : Ref α) (order : List Nat) : Ref α :=
  order.foldl (Ref.runOne now thr) r

def seqObs {α : Type} (now : Nat) (thr : Nat → Thread α) (w : World) : List Nat → List (α × List OEv)
  | [] => []
  | i :: rest =>
    (((thr i).body.eval now w []).1, ((thr i).body.eval now w []).2.1) ::
      seqObs now thr ((thr i).body.eval now w []).2.2.1 rest

def seqEnd {α : Type} (now : Nat) (thr : Nat → Thread α) (w : World) : List Nat → World
  | [] => w
  | i :: rest => seqEnd now thr ((thr i).body.eval now w []).2.2.1 rest

theorem seqRunT_toT {α : Type} (now : Nat) (thr : Nat → Thread α) : ∀ (order : List Nat) (r : Ref α),
    seqRunT now (fun i => (thr i).toT) ⟨r.w, r.res⟩ order = ⟨(seqRun now thr r order).w, (seqRun now thr r order).res⟩
  | [], _ => rfl
  | i :: order, r => seqRunT_toT now thr order (r.runOne now thr i)

theorem seqEndT_toT {α : Type} (now : Nat) (thr : Nat → Thread α) : ∀ (order : List Nat) (w : World),
    seqEndT now (fun i => (thr i).toT) w order = seqEnd now thr w order
  | [], _ => rfl
  | _ :: order, _ => seqEndT_toT now thr order _

theorem seqObsT_toT {α : Type} (now : Nat) (thr : Nat → Thread α) : ∀ (order : List Nat) (w : World),
    seqObsT now (fun i => (thr i).toT) w order = seqObs now thr w order
  | [], _ => rfl
  | _ :: order, _ => congrArg (_ :: ·) (seqObsT_toT now thr order _)

/-- `InvT` in terms of keys (`InvT.toInv'`); primed because `Inv` is a class of core. -/
structure Inv' {α : Type} (now : Nat) (thr : Nat → Thread α) (c : Conf α) (r : Ref α) : Prop where
  running : ∀ i p evs, c.ts i = .running p evs →
    AllReqs (KeyLocal (thr i).key) p ∧
    r.res i = some ((p.eval now c.w []).1, evs ++ (p.eval now c.w []).2.1) ∧
    at' (p.eval now c.w []).2.2.1 (thr i).key = at' r.w (thr i).key
  done : ∀ i a evs, c.ts i = .done a evs → r.res i = some (a, evs)
  quiet : ∀ k, (∀ j p evs, c.ts j = .running p evs → (thr j).key ≠ k) → at' c.w k = at' r.w k
  excl : ∀ i j p evs q evs', i ≠ j → c.ts i = .running p evs → c.ts j = .running q evs' →
    (thr i).stripe ≠ (thr j).stripe

theorem InvT.toInv' {α : Type} {now : Nat} {thr : Nat → Thread α} {c : Conf α} {r : Ref α}
    (h : InvT now (fun i => (thr i).toT) c ⟨r.w, r.res⟩) : Inv' now thr c r where
  running i p evs hi :=
    have ⟨a, b, d⟩ := h.running i p evs hi
    ⟨a, b, at'_congr.mpr fun t => d (t, (thr i).key) rfl⟩
  done := h.done
  quiet k hk := at'_congr.mpr fun t => h.quiet (t, k) fun j p evs hj e => hk j p evs hj e.symm
  excl := h.excl

theorem Exec.inv' {α : Type} {now : Nat} {thr : Nat → Thread α}
    (hbody : ∀ i, AllReqs (KeyLocal (thr i).key) (thr i).body)
    (hkey : ∀ i j, (thr i).key = (thr j).key → (thr i).stripe = (thr j).stripe)
    {w : World} {sched : List Step} {c' : Conf α} (hex : Exec now thr (Conf.init w) sched c') :
    Inv' now thr c' (seqRun now thr { w := w, res := fun _ => none } (acqOrder sched)) := by
  have h := hex.toT.invT (thr := fun i => (thr i).toT) hbody (fun i j l hi hj => hkey i j (hi.symm.trans hj))
    (invT_init now _ w)
  rw [seqRunT_toT now thr _ { w := w, res := fun _ => none }] at h
  exact h.toInv'

theorem serializable {α : Type} (now : Nat) (thr : Nat → Thread α)
    (hbody : ∀ i, AllReqs (KeyLocal (thr i).key) (thr i).body)
    (hkey : ∀ i j, (thr i).key = (thr j).key → (thr i).stripe = (thr j).stripe)
    (w : World) (sched : List Step) (c' : Conf α) (hex : Exec now thr (Conf.init w) sched c')
    (hquiet : ∀ i p evs, c'.ts i ≠ .running p evs) :
    c'.w = (seqRun now thr { w := w, res := fun _ => none } (acqOrder sched)).w ∧
    ∀ i a evs, c'.ts i = .done a evs →
      (seqRun now thr { w := w, res := fun _ => none } (acqOrder sched)).res i = some (a, evs) :=
  have h := hex.inv' hbody hkey
  ⟨world_ext _ _ fun k => h.quiet k fun j p evs hj => absurd hj (hquiet j p evs), h.done⟩

theorem acqOrder_nodup {α : Type} (now : Nat) (thr : Nat → Thread α) (c c' : Conf α) (sched : List Step)
    (hex : Exec now thr c sched c') :
    (acqOrder sched).Nodup ∧ (∀ i ∈ acqOrder sched, c.ts i = .idle ∧ c'.ts i ≠ .idle) ∧
    (∀ j, c.ts j ≠ .idle → c'.ts j ≠ .idle) :=
  (exec_iff.mp hex).acqOrder_nodup

theorem serializable_obs {α : Type} (now : Nat) (thr : Nat → Thread α)
    (hbody : ∀ i, AllReqs (KeyLocal (thr i).key) (thr i).body)
    (hkey : ∀ i j, (thr i).key = (thr j).key → (thr i).stripe = (thr j).stripe)
    (w : World) (sched : List Step) (c' : Conf α) (hex : Exec now thr (Conf.init w) sched c')
    (hquiet : ∀ i p evs, c'.ts i ≠ .running p evs) :
    c'.w = seqEnd now thr w (acqOrder sched) ∧
    (acqOrder sched).map c'.ts = (seqObs now thr w (acqOrder sched)).map (fun o => TState.done o.1 o.2) := by
  have h := serializableTT_obs now (fun i => (thr i).toT) hbody (fun i j l hi hj => hkey i j (hi.symm.trans hj))
    w sched c' hex.toT hquiet
  rw [seqEndT_toT, seqObsT_toT] at h
  exact h

end Rend.Conc
