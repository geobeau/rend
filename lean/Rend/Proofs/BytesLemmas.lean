/-
  Big-endian fields and decimal digits: the facts the codec proofs share.
-/
import Rend.Base.Bytes

namespace Rend.Bytes

theorem rd16_be16_append (n : Nat) (h : n < 65536) (rest : Bytes) : rd16 (be16 n ++ rest) = n := by
  simp [be16, rd16, UInt8.toNat_ofNat']
  omega

theorem rd32_be32_append (n : Nat) (h : n < 4294967296) (rest : Bytes) : rd32 (be32 n ++ rest) = n := by
  simp [be32, rd32, UInt8.toNat_ofNat']
  omega

theorem rd32_be32 (n : Nat) (h : n < 4294967296) : rd32 (be32 n) = n :=
  rd32_be32_append n h []

theorem rd16_lt (b : Bytes) : rd16 b < 65536 := by
  unfold rd16
  split
  · rename_i a c _
    have := a.toNat_lt
    have := c.toNat_lt
    omega
  · decide

theorem rd32_lt (b : Bytes) : rd32 b < 4294967296 := by
  unfold rd32
  split
  · rename_i a c d e _
    have := a.toNat_lt
    have := c.toNat_lt
    have := d.toNat_lt
    have := e.toNat_lt
    omega
  · decide

theorem be32_length (n : Nat) : (be32 n).length = 4 := rfl

theorem drop_be32_append (n k : Nat) (rest : Bytes) : (be32 n ++ rest).drop (k + 4) = rest.drop k := by
  simp [be32]

theorem zeros_length (n : Nat) : (zeros n).length = n := by
  simp [zeros]

theorem digit_toNat {c : Char} (h : c.isDigit = true) :
    (UInt8.ofNat c.toNat).toNat = c.toNat ∧ 48 ≤ c.toNat ∧ c.toNat ≤ 57 := by
  simp only [Char.isDigit, Bool.and_eq_true, decide_eq_true_eq] at h
  have h1 : 48 ≤ c.toNat := UInt32.le_iff_toNat_le.mp h.1
  have h2 : c.toNat ≤ 57 := UInt32.le_iff_toNat_le.mp h.2
  refine ⟨?_, h1, h2⟩
  rw [UInt8.toNat_ofNat']
  omega

theorem mem_decDigits {n : Nat} {b : UInt8} (h : b ∈ decDigits n) : 48 ≤ b.toNat ∧ b.toNat ≤ 57 := by
  simp only [decDigits, List.mem_map] at h
  obtain ⟨c, hc, rfl⟩ := h
  have hd := digit_toNat (Nat.isDigit_of_mem_toDigits (by decide) (by decide) hc)
  rw [hd.1]
  exact hd.2

theorem decDigits_ne_nil (n : Nat) : decDigits n ≠ [] := by
  simp [decDigits, Nat.toDigits_ne_nil]

theorem decDigits_length_le_iff (n : Nat) {k : Nat} (hk : 0 < k) : (decDigits n).length ≤ k ↔ n < 10 ^ k := by
  simpa [decDigits] using Nat.length_toDigits_le_iff (n := n) (b := 10) (by decide) hk

theorem map_ofNat_decDigits (n : Nat) : (decDigits n).map (fun b => Char.ofNat b.toNat) = Nat.toDigits 10 n := by
  rw [decDigits, List.map_map]
  refine (List.map_congr_left fun c hc => ?_).trans (List.map_id _)
  have hd := digit_toNat (Nat.isDigit_of_mem_toDigits (by decide) (by decide) hc)
  simp only [Function.comp_apply, hd.1, id_eq]
  exact Char.ofNat_toNat c

theorem decDigits_inj {i j : Nat} (h : decDigits i = decDigits j) : i = j := by
  have := congrArg (fun l => Nat.ofDigitChars 10 (l.map fun b => Char.ofNat b.toNat) 0) h
  simpa only [map_ofNat_decDigits, Nat.ofDigitChars_ten_toDigits] using this

end Rend.Bytes
