/-
  What the chunked handler sends.  One lemma per program, for an arbitrary predicate `P` on
  requests: the program emits nothing, and `P` holds of every request it can issue, whatever the
  backend answers, as soon as it holds of the few request shapes listed in the hypotheses.  The
  footprint statements about the handler, and its silence, are instances.  Only the get loop is
  walked twice: its request lemma also says which keys are answered (`ReqsPost`).
-/
import Rend.Proofs.ChunkedReassembly
import Rend.Proofs.ProgLemmas
import Rend.Proofs.Runs

namespace Rend.Chunked
open Rend

variable {ε : Type} {P : Tier → Req → Prop}

theorem askChunks_sends (t : Tier) (op : Op) (key : Bytes) (e : Nat)
    (hc : ∀ j, P t { op := op, key := chunkKey key j, exptime := e }) (n i : Nat) :
    Sends P (askChunks (ε := ε) t op key e n i) := by
  induction n generalizing i with
  | zero => exact .pure _
  | succ n ih =>
    refine (Sends.req _ _ (hc i)).bind fun r => (ih (i + 1)).bind fun rest => ?_
    cases r <;> exact .pure _

theorem readChunks_sends (t : Tier) (op : Op) (key : Bytes) (e : Nat) (md : Meta)
    (hn : P t { op := .noop }) (hc : ∀ j, P t { op := op, key := chunkKey key j, exptime := e }) :
    Sends P (readChunks (ε := ε) t op key e md) := by
  rw [readChunks_eq]
  exact (askChunks_sends t op key e hc _ 0).bind fun _ => (Sends.req _ _ hn).bind fun _ => .pure _

theorem pipeChunks_sends (t : Tier) (mk : Bytes → Req) (key : Bytes) (hc : ∀ j, P t (mk (chunkKey key j))) (n i : Nat) :
    Sends P (pipeChunks (ε := ε) t mk key n i) := by
  induction n generalizing i with
  | zero => exact .pure _
  | succ n ih =>
    refine (Sends.req _ _ (hc i)).bind fun r => (ih (i + 1)).bind fun m => ?_
    cases r <;> exact .pure _

theorem writeChunks_sends (t : Tier) (c : SetCmd) (token : Bytes) (hc : ∀ j, P t (chunkSet c token j)) (n i : Nat) :
    Sends P (writeChunks (ε := ε) t c token (sizes c.key.length).1 n i) := by
  induction n generalizing i with
  | zero => exact .pure _
  | succ n ih =>
    refine (Sends.req _ _ (hc i)).bind fun r => ?_
    cases r with
    | status s =>
      dsimp only
      split
      · exact .pure _
      · exact ih _
    | io | wfail => exact .pure _
    | hit | ok | silent => exact ih _

/-- Stated for the body after the token draw: `Sends` has no rule for `Prog.draw` that hands the body
    `token.length = 16` (`Silent` speaks of every run, `AllReqs.draw` of 16-byte tokens only), so the two
    users below pass the draw themselves, by `AllReqs.draw` and by `Silent.token`. -/
theorem setCommon_sends (t : Tier) (now : Nat) (k : SetKind) (c : SetCmd) :
    ∃ body : Bytes → Prog ε (HRes Unit), setCommon t now k c = .draw body ∧
      ∀ (P : Tier → Req → Prop) (token : Bytes),
        P t { op := k.op, key := metaKey c.key, flags := c.flags, exptime := c.exptime,
              value := encodeMeta (setMeta now c token) } →
        (∀ j, P t (chunkSet c token j)) → Sends P (body token) := by
  refine ⟨_, rfl, fun P token hm hc => (Sends.req _ _ hm).bind fun r => ?_⟩
  have hw := writeChunks_sends (ε := ε) t c token hc
  cases r with
  | status s =>
    dsimp only
    split
    · exact .pure _
    · exact hw _ 0
  | io | wfail => exact .pure _
  | hit | ok | silent => exact hw _ 0

theorem allReqs_setCommon (t : Tier) (now : Nat) (k : SetKind) (c : SetCmd)
    (h : ∀ token, token.length = 16 →
      P t { op := k.op, key := metaKey c.key, flags := c.flags, exptime := c.exptime,
            value := encodeMeta (setMeta now c token) } ∧ ∀ j, P t (chunkSet c token j)) :
    AllReqs P (setCommon (ε := ε) t now k c) := by
  obtain ⟨body, e, hb⟩ := setCommon_sends (ε := ε) t now k c
  rw [e]
  exact AllReqs.draw _ fun token ht => (hb P token (h token ht).1 (h token ht).2).reqs

theorem setCommon_silent (t : Tier) (now : Nat) (k : SetKind) (c : SetCmd) : Silent (setCommon (ε := ε) t now k c) := by
  obtain ⟨body, e, hb⟩ := setCommon_sends (ε := ε) t now k c
  rw [e]
  exact Silent.token.bind fun token => (hb (fun _ _ => True) token trivial fun _ => trivial).silent

structure ReadReqs (P : Tier → Req → Prop) (t : Tier) (mop cop : Op) (key : Bytes) (e : Nat) : Prop where
  metadata : P t { op := mop, key := metaKey key, exptime := e }
  noop : P t { op := .noop }
  chunk : ∀ j, P t { op := cop, key := chunkKey key j, exptime := e }

theorem ReadReqs.readChunks {t : Tier} {mop cop : Op} {key : Bytes} {e : Nat} (h : ReadReqs P t mop cop key e) (md : Meta) :
    Sends P (readChunks (ε := ε) t cop key e md) :=
  readChunks_sends t cop key e md h.noop h.chunk

theorem gat_sends (t : Tier) (c : KeyCmd) (h : ReadReqs P t .gat .gatq c.key c.exptime) :
    Sends P (Chunked.gat (ε := ε) t c) := by
  refine (Sends.req _ _ h.metadata).bind fun mr => ?_
  split
  · exact .pure _
  · exact .pure _
  · refine (h.readChunks _).bind fun ro => ?_
    cases ro <;> exact .pure _

/-- `hs` asks for the set path as a whole, not for the shapes of its requests: see `setCommon_sends` — the shapes
    hold for 16-byte tokens, and only `AllReqs.draw` supplies that; `allReqs_setCommon` turns shapes into `hs`. -/
theorem store_sends (t : Tier) (now : Nat) (k : SetKind) (c : SetCmd) (hr : ReadReqs P t .get .getq c.key 0)
    (hs : ∀ k' c', c'.key = c.key → AllReqs P (setCommon (ε := ε) t now k' c')) :
    Sends P (Chunked.store (ε := ε) t now k c) := by
  have hset : ∀ k' c', c'.key = c.key → Sends P (setCommon (ε := ε) t now k' c') := fun k' c' h =>
    ⟨hs k' c' h, setCommon_silent ..⟩
  have hpend : Sends P (pend (ε := ε) t now k c) := by
    refine (Sends.req _ _ hr.metadata).bind fun mr => ?_
    split
    · exact .pure _
    · refine (hr.readChunks _).bind fun ro => ?_
      cases ro with
      | err e => exact .pure _
      | miss => exact .pure _
      | value d => exact hset _ _ rfl
  cases k
  case append => exact hpend
  case prepend => exact hpend
  all_goals exact hset _ _ rfl

theorem delete_sends (t : Tier) (c : KeyCmd) (hg : P t { op := .get, key := metaKey c.key })
    (hd : P t { op := .delete, key := metaKey c.key }) (hc : ∀ j, P t { op := .delete, key := chunkKey c.key j }) :
    Sends P (Chunked.delete (ε := ε) t c) := by
  refine (Sends.req _ _ hg).bind fun mr => ?_
  dsimp only
  split
  · exact .pure _
  · refine (Sends.req _ _ hd).bind fun dr => ?_
    split
    · exact .pure _
    · refine (pipeChunks_sends t _ c.key hc _ 0).bind fun m => ?_
      split <;> exact .pure _

theorem touch_sends (t : Tier) (now : Nat) (c : KeyCmd) (hg : P t { op := .get, key := metaKey c.key })
    (hc : ∀ j, P t { op := .touch, key := chunkKey c.key j, exptime := c.exptime })
    (hs : ∀ f v, P t { op := .set, key := metaKey c.key, flags := f, exptime := c.exptime, value := v }) :
    Sends P (Chunked.touch (ε := ε) t now c) := by
  refine (Sends.req _ _ hg).bind fun mr => ?_
  split
  · exact .pure _
  · refine (pipeChunks_sends t _ c.key hc _ 0).bind fun m => ?_
    split
    · exact .pure _
    · refine (Sends.req _ _ (hs _ _)).bind fun r => ?_
      cases r with
      | status s => dsimp only; split <;> exact .pure _
      | _ => exact .pure _

theorem reqsPost_getLoop (t : Tier) : ∀ ks : List GetKey, (∀ g ∈ ks, ReadReqs P t .get .getq g.key 0) →
    ReqsPost P (fun x => ∀ r ∈ x.1, ∃ g ∈ ks, r.key = g.key) (getLoop (ε := ε) t ks)
  | [], _ => ReqsPost.pure _ fun _ hr => nomatch hr
  | g :: rest, h => by
    have hg := h g (List.mem_cons_self ..)
    -- the answer `r0` for `g`, then the answers for the rest
    have ih : ∀ r0 : GetResp, r0.key = g.key →
        ReqsPost P (fun x => ∀ r ∈ x.1, ∃ g' ∈ g :: rest, r.key = g'.key)
          (getLoop (ε := ε) t rest >>= fun x => pure (r0 :: x.1, x.2)) := fun r0 h0 =>
      (reqsPost_getLoop t rest fun g' hg' => h g' (List.mem_cons_of_mem _ hg')).bind fun x hx =>
        ReqsPost.pure _ fun r hr => by
          rcases List.mem_cons.mp hr with rfl | hr
          · exact ⟨g, List.mem_cons_self .., h0⟩
          · obtain ⟨g', hg', e⟩ := hx r hr
            exact ⟨g', List.mem_cons_of_mem _ hg', e⟩
    have nil : ∀ e, ReqsPost P (fun x => ∀ r ∈ x.1, ∃ g' ∈ g :: rest, r.key = g'.key)
        (pure ([], e) : Prog ε (List GetResp × Option HErr)) := fun e => ReqsPost.pure _ fun _ hr => nomatch hr
    refine (ReqsPost.req _ _ hg.metadata).bind fun mr _ => ?_
    split
    · exact ih _ rfl
    · exact nil _
    · refine (ReqsPost.ofAll (hg.readChunks _).reqs).bind fun ro _ => ?_
      cases ro with
      | err e => exact nil _
      | miss => exact ih _ rfl
      | value d => exact ih _ rfl

theorem getLoop_silent (t : Tier) : ∀ ks, Silent (getLoop (ε := ε) t ks)
  | [] => Silent.pure _
  | g :: rest => by
    have ih : ∀ r0 : GetResp, Silent (getLoop (ε := ε) t rest >>= fun x => pure (r0 :: x.1, x.2)) := fun _ =>
      (getLoop_silent t rest).bind fun _ => Silent.pure _
    refine (Silent.req _ _).bind fun mr => ?_
    split
    · exact ih _
    · exact Silent.pure _
    · refine (readChunks_sends (P := fun _ _ => True) t .getq g.key 0 _ trivial fun _ => trivial).silent.bind fun ro => ?_
      cases ro with
      | err e => exact Silent.pure _
      | miss => exact ih _
      | value d => exact ih _

end Rend.Chunked

namespace Rend
open Chunked

theorem Chunked.silent {ε} (t : Tier) (now : Nat) : SilentHandler (Chunked.handler (ε := ε) t now) where
  store k c := (store_sends (P := fun _ _ => True) t now k c ⟨trivial, trivial, fun _ => trivial⟩ fun k' c' _ =>
    allReqs_setCommon t now k' c' fun _ _ => ⟨trivial, fun _ => trivial⟩).silent
  get := getLoop_silent t
  getE _ := Silent.pure _
  gat c := (gat_sends (P := fun _ _ => True) t c ⟨trivial, trivial, fun _ => trivial⟩).silent
  delete c := (delete_sends (P := fun _ _ => True) t c trivial trivial fun _ => trivial).silent
  touch c := (touch_sends (P := fun _ _ => True) t now c trivial (fun _ => trivial) fun _ _ => trivial).silent

end Rend
