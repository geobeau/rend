/-
  The reduction of C03.  Critical sections run under exclusive stripe locks, every backend request
  of a section addresses a location of the section's own FOOTPRINT, sections whose footprints meet
  share a stripe.  Then the invariant `InvT` ties every configuration of EVERY admitted schedule —
  any number of connections, interleaved at single backend requests and responder calls — to the
  run of the commands whole, one after another, in the order in which they obtained their locks
  (`ExecT.invT`).  A location is a (tier, key) pair, so a footprint may name different keys in L1
  and in L2 (the chunking handler's derived keys in L1, the client key itself in L2); footprints
  given by one key or by a set of keys in both tiers (Serial.lean, SerialFoot.lean) are special
  cases.
-/
import Rend.Proofs.EvalInvariant
import Rend.Proofs.Sched

namespace Rend.Conc
open Rend

abbrev Loc := Tier × Bytes

def atT (w : World) (l : Loc) : Option Item := (w.get l.1) l.2

/-- The request addresses a location of the set `F` (or is the key-less no-op). -/
def FootLocalT (F : Loc → Prop) : Tier → Req → Prop := fun t r => F (t, r.key) ∨ r.op = .noop

theorem exec_otherF (now : Nat) (s : Store) (r : Req) (F : Bytes → Prop) (k' : Bytes) (h : F r.key ∨ r.op = .noop)
    (hk : ¬ F k') : (Mc.exec now s r).1 k' = s k' := by
  rcases h with h | h
  · exact Mc.exec_other now s r fun e => hk (e ▸ h)
  · rw [Mc.exec_noop now s h]

theorem exec_sameF (now : Nat) (s s' : Store) (r : Req) (F : Bytes → Prop) (h : F r.key ∨ r.op = .noop)
    (hs : ∀ k, F k → s k = s' k) :
    (Mc.exec now s r).2 = (Mc.exec now s' r).2 ∧ ∀ k, F k → (Mc.exec now s r).1 k = (Mc.exec now s' r).1 k := by
  rcases h with h | h
  · obtain ⟨a, b⟩ := Mc.exec_congr now r (hs _ h)
    refine ⟨a, fun k hk => ?_⟩
    by_cases hkr : k = r.key
    · rw [hkr]; exact b
    · rw [Mc.exec_other now s r hkr, Mc.exec_other now s' r hkr]
      exact hs k hk
  · rw [Mc.exec_noop now s h, Mc.exec_noop now s' h]
    exact ⟨rfl, hs⟩

theorem world_extT (w w' : World) (h : ∀ l, atT w l = atT w' l) : w = w' := by
  have h1 : w.l1 = w'.l1 := funext (fun k => h (.l1, k))
  have h2 : w.l2 = w'.l2 := funext (fun k => h (.l2, k))
  cases w; cases w'; simp only at h1 h2; subst h1; subst h2; rfl

theorem put_otherT (now : Nat) (w : World) (t : Tier) (r : Req) (F : Loc → Prop) (l' : Loc) (h : F (t, r.key) ∨ r.op = .noop)
    (hk : ¬ F l') : atT (w.put t (Mc.exec now (w.get t) r).1) l' = atT w l' := by
  obtain ⟨t', k'⟩ := l'
  show ((w.put t _).get t') k' = (w.get t') k'
  rw [World.get_put]
  split
  · next ht =>
    subst ht
    exact exec_otherF now _ r (fun k => F (t', k)) k' h hk
  · rfl

theorem put_sameT (now : Nat) (w w' : World) (t : Tier) (r : Req) (F : Loc → Prop) (h : F (t, r.key) ∨ r.op = .noop)
    (hs : ∀ l, F l → atT w l = atT w' l) :
    (Mc.exec now (w.get t) r).2 = (Mc.exec now (w'.get t) r).2 ∧
    ∀ l, F l → atT (w.put t (Mc.exec now (w.get t) r).1) l = atT (w'.put t (Mc.exec now (w'.get t) r).1) l := by
  obtain ⟨a, b⟩ := exec_sameF now (w.get t) (w'.get t) r (fun k => F (t, k)) h fun k hk => hs (t, k) hk
  refine ⟨a, ?_⟩
  rintro ⟨t', k'⟩ hl
  show ((w.put t _).get t') k' = ((w'.put t _).get t') k'
  rw [World.get_put, World.get_put]
  split
  · next ht =>
    subst ht
    exact b k' hl
  · exact hs (t', k') hl

theorem eval_otherT {ε α : Type} (now : Nat) (F : Loc → Prop) {p : Prog ε α} (hp : AllReqs (FootLocalT F) p) :
    ∀ (w : World) (l' : Loc), ¬ F l' → atT (p.eval now w []).2.2.1 l' = atT w l' :=
  fun w l' hl => hp.eval_preserves (I := fun w' => atT w' l' = atT w l') now
    (fun w' t r hr h => (put_otherT now w' t r F l' hr hl).trans h) w [] nofun rfl

theorem eval_sameT {ε α : Type} (now : Nat) (F : Loc → Prop) {p : Prog ε α} (hp : AllReqs (FootLocalT F) p) :
    ∀ (w w' : World), (∀ l, F l → atT w l = atT w' l) →
      (p.eval now w []).1 = (p.eval now w' []).1 ∧ (p.eval now w []).2.1 = (p.eval now w' []).2.1 ∧
      ∀ l, F l → atT (p.eval now w []).2.2.1 l = atT (p.eval now w' []).2.2.1 l := by
  induction hp with
  | ret a => intro w w' h; exact ⟨rfl, rfl, h⟩
  | call t r f hr _ ih =>
    intro w w' h
    have hs := put_sameT now w w' t r F hr h
    simp only [Prog.eval]
    rw [hs.1]
    exact ih _ _ _ hs.2
  | draw f _ ih =>
    intro w w' h
    simp only [Prog.eval]
    exact ih _ zeros_len w w' h
  | emit e p _ ih =>
    intro w w' h
    simp only [Prog.eval]
    obtain ⟨a, b, c⟩ := ih w w' h
    exact ⟨a, by rw [b], c⟩

/-- One command under the locking wrapper: the backend locations it works on, the stripe its key
    hashes to, and what runs between `Lock()` and `Unlock()`. -/
structure ThreadT (α : Type) where
  foot : Loc → Prop
  stripe : Nat
  body : Prog OEv α

/-- One scheduling step under exclusive stripe locks: `StepWith` for `exclAdm`, written out
    (`step1T_iff`).  The footprints are not read. -/
inductive Step1T {α : Type} (now : Nat) (thr : Nat → ThreadT α) : Conf α → Step → Conf α → Prop where
  | acq (c : Conf α) (i : Nat) : c.ts i = .idle →
      (∀ j p evs, c.ts j = .running p evs → (thr j).stripe ≠ (thr i).stripe) →
      Step1T now thr c (.acq i) (c.set i (.running (thr i).body []))
  | call (c : Conf α) (i : Nat) (t : Tier) (r : Req) (k : Resp → Prog OEv α) (evs : List OEv) :
      c.ts i = .running (.call t r k) evs →
      Step1T now thr c (.act i)
        (Conf.set { w := c.w.put t (Mc.exec now (c.w.get t) r).1, ts := c.ts } i
          (.running (k (Mc.exec now (c.w.get t) r).2) evs))
  | emit (c : Conf α) (i : Nat) (e : OEv) (p : Prog OEv α) (evs : List OEv) :
      c.ts i = .running (.emit e p) evs → Step1T now thr c (.act i) (c.set i (.running p (evs ++ [e])))
  | draw (c : Conf α) (i : Nat) (k : Bytes → Prog OEv α) (evs : List OEv) :
      c.ts i = .running (.draw k) evs → Step1T now thr c (.act i) (c.set i (.running (k (Bytes.zeros 16)) evs))
  | rel (c : Conf α) (i : Nat) (a : α) (evs : List OEv) :
      c.ts i = .running (.ret a) evs → Step1T now thr c (.rel i) (c.set i (.done a evs))

/-- `ExecWith`, written out (`execT_iff`). -/
inductive ExecT {α : Type} (now : Nat) (thr : Nat → ThreadT α) : Conf α → List Step → Conf α → Prop where
  | nil (c : Conf α) : ExecT now thr c [] c
  | cons (c c' c'' : Conf α) (s : Step) (rest : List Step) : Step1T now thr c s c' → ExecT now thr c' rest c'' →
      ExecT now thr c (s :: rest) c''

theorem step1T_iff {α : Type} {now : Nat} {thr : Nat → ThreadT α} {c c' : Conf α} {s : Step} :
    Step1T now thr c s c' ↔ StepWith now (fun i => (thr i).body) (exclAdm fun i => (thr i).stripe) c s c' :=
  ⟨fun h => by cases h <;> constructor <;> assumption, fun h => by cases h <;> constructor <;> assumption⟩

theorem execT_iff {α : Type} {now : Nat} {thr : Nat → ThreadT α} {c c' : Conf α} {sched : List Step} :
    ExecT now thr c sched c' ↔ ExecWith now (fun i => (thr i).body) (exclAdm fun i => (thr i).stripe) c sched c' := by
  constructor
  · intro h
    induction h with
    | nil c => exact .nil c
    | cons c d e s rest hs _ ih => exact .cons c d e s rest (step1T_iff.mp hs) ih
  · intro h
    induction h with
    | nil c => exact .nil c
    | cons c d e s rest hs _ ih => exact .cons c d e s rest (step1T_iff.mpr hs) ih

structure RefT (α : Type) where
  w : World
  res : Nat → Option (α × List OEv)

def RefT.runOne {α : Type} (now : Nat) (thr : Nat → ThreadT α) (r : RefT α) (i : Nat) : RefT α :=
  { w := ((thr i).body.eval now r.w []).2.2.1,
    res := fun j => if j = i then some (((thr i).body.eval now r.w []).1, ((thr i).body.eval now r.w []).2.1) else r.res j }

def seqRunT {α : Type} (now : Nat) (thr : Nat → ThreadT α) (r : RefT α) (order : List Nat) : RefT α :=
  order.foldl (RefT.runOne now thr) r

/-- The reference moves when a command obtains its lock: it runs that command whole. -/
def RefT.extend {α : Type} (now : Nat) (thr : Nat → ThreadT α) (r : RefT α) : Step → RefT α
  | .acq i => r.runOne now thr i
  | _ => r

/-- What ties a configuration to the sequential run `r` of the commands that have their locks.
    `running` looks ahead: a command inside its section, run to its end from here with nobody else
    moving, returns and will have emitted what `r` records for it and leaves its footprint as `r`
    has it. -/
structure InvT {α : Type} (now : Nat) (thr : Nat → ThreadT α) (c : Conf α) (r : RefT α) : Prop where
  running : ∀ i p evs, c.ts i = .running p evs →
    AllReqs (FootLocalT (thr i).foot) p ∧
    r.res i = some ((p.eval now c.w []).1, evs ++ (p.eval now c.w []).2.1) ∧
    ∀ k, (thr i).foot k → atT (p.eval now c.w []).2.2.1 k = atT r.w k
  done : ∀ i a evs, c.ts i = .done a evs → r.res i = some (a, evs)
  quiet : ∀ k, (∀ j p evs, c.ts j = .running p evs → ¬ (thr j).foot k) → atT c.w k = atT r.w k
  excl : ∀ i j p evs q evs', i ≠ j → c.ts i = .running p evs → c.ts j = .running q evs' →
    (thr i).stripe ≠ (thr j).stripe

/-- The one rule every step goes through: connection `i` moves to `st`, the world to `w'`, the
    reference to `r'`, both changing inside the footprint of `i` only.  The others do not notice:
    their footprints do not meet that of `i` (`hkey`, `hfree`). -/
theorem InvT.set {α : Type} {now : Nat} {thr : Nat → ThreadT α}
    (hkey : ∀ i j k, (thr i).foot k → (thr j).foot k → (thr i).stripe = (thr j).stripe)
    {c : Conf α} {r : RefT α} (hinv : InvT now thr c r) (i : Nat) {w' : World} {st : TState α} {r' : RefT α}
    (hfree : ∀ j p evs, j ≠ i → c.ts j = .running p evs → (thr j).stripe ≠ (thr i).stripe)
    (hw : ∀ l, ¬ (thr i).foot l → atT w' l = atT c.w l)
    (hrw : ∀ l, ¬ (thr i).foot l → atT r'.w l = atT r.w l)
    (hres : ∀ j, j ≠ i → r'.res j = r.res j)
    (hst : match st with
      | .idle => False
      | .running p evs => AllReqs (FootLocalT (thr i).foot) p ∧
          r'.res i = some ((p.eval now w' []).1, evs ++ (p.eval now w' []).2.1) ∧
          ∀ l, (thr i).foot l → atT (p.eval now w' []).2.2.1 l = atT r'.w l
      | .done a evs => r'.res i = some (a, evs) ∧ ∀ l, (thr i).foot l → atT w' l = atT r'.w l) :
    InvT now thr (Conf.set { w := w', ts := c.ts } i st) r' := by
  have hout : ∀ j p evs, j ≠ i → c.ts j = .running p evs → ∀ l, (thr j).foot l → ¬ (thr i).foot l :=
    fun j p evs hji hj l hjl hil => hfree j p evs hji hj (hkey j i l hjl hil)
  constructor
  · intro j q qevs hj
    rcases set_cases hj with ⟨rfl, rfl⟩ | ⟨hji, hj⟩
    · exact hst
    · obtain ⟨a, b, d⟩ := hinv.running j q qevs hj
      have out := hout j q qevs hji hj
      obtain ⟨e1, e2, e3⟩ := eval_sameT now (thr j).foot a w' c.w fun l hl => hw l (out l hl)
      refine ⟨a, ?_, fun l hl => ?_⟩
      · show r'.res j = some ((q.eval now w' []).1, qevs ++ (q.eval now w' []).2.1)
        rw [hres j hji, e1, e2]
        exact b
      · show atT (q.eval now w' []).2.2.1 l = atT r'.w l
        rw [e3 l hl, hrw l (out l hl)]
        exact d l hl
  · intro j a aevs hj
    rcases set_cases hj with ⟨rfl, rfl⟩ | ⟨hji, hj⟩
    · exact hst.1
    · rw [hres j hji]
      exact hinv.done j a aevs hj
  · intro l hl
    show atT w' l = atT r'.w l
    by_cases hil : (thr i).foot l
    · cases st with
      | idle => exact hst.elim
      | running p evs => exact absurd hil (hl i p evs (set_self _ _ _))
      | done a evs => exact hst.2 l hil
    · rw [hw l hil, hrw l hil]
      refine hinv.quiet l fun j q qevs hj => ?_
      by_cases hji : j = i
      · exact hji ▸ hil
      · exact hl j q qevs ((set_other _ _ _ _ hji).trans hj)
  · exact set_excl (R := fun a b => (thr a).stripe ≠ (thr b).stripe) (fun _ _ => Ne.symm) st hinv.excl hfree

theorem invT_step {α : Type} (now : Nat) (thr : Nat → ThreadT α)
    (hbody : ∀ i, AllReqs (FootLocalT (thr i).foot) (thr i).body)
    (hkey : ∀ i j k, (thr i).foot k → (thr j).foot k → (thr i).stripe = (thr j).stripe)
    (c c' : Conf α) (s : Step) (r : RefT α) (hstep : Step1T now thr c s c') (hinv : InvT now thr c r) :
    InvT now thr c' (r.extend now thr s) := by
  have sole : ∀ i p evs, c.ts i = .running p evs →
      ∀ j q qevs, j ≠ i → c.ts j = .running q qevs → (thr j).stripe ≠ (thr i).stripe :=
    fun i p evs hi j q qevs hji hj => hinv.excl j i q qevs p evs hji hj hi
  cases hstep with
  | acq i hidle hfree =>
    -- nobody inside shares a location with `i`, so `i` starts from the reference's state of its footprint
    obtain ⟨e1, e2, e3⟩ := eval_sameT now (thr i).foot (hbody i) c.w r.w fun l hil =>
      hinv.quiet l fun j p evs hj hjl => hfree j p evs hj (hkey j i l hjl hil)
    show InvT now thr _ (r.runOne now thr i)
    refine hinv.set hkey i (hfree := fun j p evs _ hj => hfree j p evs hj) (hw := fun _ _ => rfl)
      (hrw := fun l hl => eval_otherT now (thr i).foot (hbody i) r.w l hl) (hres := fun j hji => if_neg hji)
      (hst := ⟨hbody i, ?_, e3⟩)
    simp only [RefT.runOne, if_true, List.nil_append]
    rw [e1, e2]
  | call i t rq k evs hi =>
    obtain ⟨a, b, d⟩ := hinv.running i _ evs hi
    cases a with
    | call _ _ _ hr hk =>
      exact hinv.set hkey i (hfree := sole i _ evs hi) (hw := fun l hl => put_otherT now c.w t rq (thr i).foot l hr hl)
        (hrw := fun _ _ => rfl) (hres := fun _ _ => rfl) (hst := ⟨hk _, b, d⟩)
  | emit i e p evs hi =>
    obtain ⟨a, b, d⟩ := hinv.running i _ evs hi
    cases a with
    | emit _ _ hp =>
      refine hinv.set hkey i (hfree := sole i _ evs hi) (hw := fun _ _ => rfl) (hrw := fun _ _ => rfl)
        (hres := fun _ _ => rfl) (hst := ⟨hp, ?_, d⟩)
      rw [List.append_assoc]
      exact b
  | draw i k evs hi =>
    obtain ⟨a, b, d⟩ := hinv.running i _ evs hi
    cases a with
    | draw _ hk =>
      exact hinv.set hkey i (hfree := sole i _ evs hi) (hw := fun _ _ => rfl) (hrw := fun _ _ => rfl)
        (hres := fun _ _ => rfl) (hst := ⟨hk _ zeros_len, b, d⟩)
  | rel i a evs hi =>
    obtain ⟨_, b, d⟩ := hinv.running i _ evs hi
    show InvT now thr _ r
    refine hinv.set hkey i (hfree := sole i _ evs hi) (hw := fun _ _ => rfl) (hrw := fun _ _ => rfl)
      (hres := fun _ _ => rfl) (hst := ⟨?_, d⟩)
    simpa [Prog.eval] using b

theorem invT_init {α : Type} (now : Nat) (thr : Nat → ThreadT α) (w : World) :
    InvT now thr (Conf.init w) { w := w, res := fun _ => none } where
  running _ _ _ h := nomatch h
  done _ _ _ h := nomatch h
  quiet _ _ := rfl
  excl _ _ _ _ _ _ _ h := nomatch h

theorem ExecT.invT {α : Type} {now : Nat} {thr : Nat → ThreadT α}
    (hbody : ∀ i, AllReqs (FootLocalT (thr i).foot) (thr i).body)
    (hkey : ∀ i j k, (thr i).foot k → (thr j).foot k → (thr i).stripe = (thr j).stripe)
    {c c' : Conf α} {sched : List Step} (hex : ExecT now thr c sched c') {r : RefT α} (hinv : InvT now thr c r) :
    InvT now thr c' (seqRunT now thr r (acqOrder sched)) := by
  rw [seqRunT, ← foldl_acqOrder (RefT.extend now thr) (RefT.runOne now thr) (fun _ _ => rfl) (fun _ _ => rfl) fun _ _ => rfl]
  induction hex generalizing r with
  | nil c => exact hinv
  | cons c c1 c2 s rest hs _ ih => exact ih (invT_step now thr hbody hkey c c1 s r hs hinv)

theorem serializableT {α : Type} (now : Nat) (thr : Nat → ThreadT α)
    (hbody : ∀ i, AllReqs (FootLocalT (thr i).foot) (thr i).body)
    (hkey : ∀ i j k, (thr i).foot k → (thr j).foot k → (thr i).stripe = (thr j).stripe)
    (w : World) (sched : List Step) (c' : Conf α) (hex : ExecT now thr (Conf.init w) sched c')
    (hquiet : ∀ i p evs, c'.ts i ≠ .running p evs) :
    c'.w = (seqRunT now thr { w := w, res := fun _ => none } (acqOrder sched)).w ∧
    ∀ i a evs, c'.ts i = .done a evs →
      (seqRunT now thr { w := w, res := fun _ => none } (acqOrder sched)).res i = some (a, evs) :=
  have h := hex.invT hbody hkey (invT_init now thr w)
  ⟨world_extT _ _ fun k => h.quiet k fun j p evs hj => absurd hj (hquiet j p evs), h.done⟩

/-- The sequential run, as lists.  `seqRunT` keeps the results in a function of the connection,
    which is what `InvT` can look a connection up in while the order still grows; the theorems
    about finished schedules list them in lock order, with the final world `seqEndT`.  The two
    agree: `seqRunT_end_obs`. -/
def seqObsT {α : Type} (now : Nat) (thr : Nat → ThreadT α) (w : World) : List Nat → List (α × List OEv)
  | [] => []
  | i :: rest =>
    (((thr i).body.eval now w []).1, ((thr i).body.eval now w []).2.1) ::
      seqObsT now thr ((thr i).body.eval now w []).2.2.1 rest

def seqEndT {α : Type} (now : Nat) (thr : Nat → ThreadT α) (w : World) : List Nat → World
  | [] => w
  | i :: rest => seqEndT now thr ((thr i).body.eval now w []).2.2.1 rest

theorem seqRunT_res {α : Type} (now : Nat) (thr : Nat → ThreadT α) : ∀ (order : List Nat) (r : RefT α) (j : Nat),
    j ∉ order → (seqRunT now thr r order).res j = r.res j
  | [], _, _, _ => rfl
  | i :: rest, r, j, hj =>
    (seqRunT_res now thr rest (r.runOne now thr i) j fun h => hj (List.mem_cons_of_mem _ h)).trans
      (if_neg fun (e : j = i) => hj (e ▸ List.mem_cons_self ..))

theorem seqRunT_end_obs {α : Type} (now : Nat) (thr : Nat → ThreadT α) : ∀ (order : List Nat) (r : RefT α), order.Nodup →
    (seqRunT now thr r order).w = seqEndT now thr r.w order ∧
    order.map (seqRunT now thr r order).res = (seqObsT now thr r.w order).map some
  | [], _, _ => ⟨rfl, rfl⟩
  | i :: rest, r, hnd => by
    obtain ⟨hi, hrest⟩ := List.nodup_cons.mp hnd
    obtain ⟨a, b⟩ := seqRunT_end_obs now thr rest (r.runOne now thr i) hrest
    refine ⟨a, ?_⟩
    show (seqRunT now thr (r.runOne now thr i) rest).res i :: rest.map (seqRunT now thr (r.runOne now thr i) rest).res = _
    rw [seqRunT_res now thr rest _ i hi, b]
    simp only [RefT.runOne, if_true, seqObsT, List.map_cons]

theorem serializableTT_obs {α : Type} (now : Nat) (thr : Nat → ThreadT α)
    (hbody : ∀ i, AllReqs (FootLocalT (thr i).foot) (thr i).body)
    (hkey : ∀ i j k, (thr i).foot k → (thr j).foot k → (thr i).stripe = (thr j).stripe)
    (w : World) (sched : List Step) (c' : Conf α) (hex : ExecT now thr (Conf.init w) sched c')
    (hquiet : ∀ i p evs, c'.ts i ≠ .running p evs) :
    c'.w = seqEndT now thr w (acqOrder sched) ∧
    (acqOrder sched).map c'.ts = (seqObsT now thr w (acqOrder sched)).map (fun o => TState.done o.1 o.2) := by
  obtain ⟨h1, h2⟩ := serializableT now thr hbody hkey w sched c' hex hquiet
  have nd := (execT_iff.mp hex).acqOrder_nodup.1
  obtain ⟨a, b⟩ := seqRunT_end_obs now thr (acqOrder sched) { w := w, res := fun _ => none } nd
  refine ⟨h1.trans a, ?_⟩
  -- every command in the order is done, with the recorded result
  let fin : Option (α × List OEv) → TState α := fun o => o.elim .idle fun o => .done o.1 o.2
  have hfin : ∀ i ∈ acqOrder sched,
      c'.ts i = fin ((seqRunT now thr { w := w, res := fun _ => none } (acqOrder sched)).res i) := by
    intro i hi
    obtain ⟨a', evs', hc⟩ := (execT_iff.mp hex).done_of_quiet hquiet hi
    rw [hc, h2 i a' evs' hc]
    rfl
  calc (acqOrder sched).map c'.ts
      = ((acqOrder sched).map (seqRunT now thr { w := w, res := fun _ => none } (acqOrder sched)).res).map fin := by
        rw [List.map_map]
        exact List.map_congr_left hfin
    _ = _ := by
        rw [b, List.map_map]
        rfl

section
variable {α : Type} {now : Nat} {thr : Nat → ThreadT α} (hbody : ∀ i, AllReqs (FootLocalT (thr i).foot) (thr i).body)
include hbody

theorem seqRunT_other : ∀ (order : List Nat) (r : RefT α) (l : Loc), (∀ i ∈ order, ¬ (thr i).foot l) →
    atT (seqRunT now thr r order).w l = atT r.w l
  | [], _, _, _ => rfl
  | i :: rest, r, l, hl =>
    (seqRunT_other rest (r.runOne now thr i) l fun j hj => hl j (List.mem_cons_of_mem _ hj)).trans
      (eval_otherT now (thr i).foot (hbody i) r.w l (hl i (List.mem_cons_self ..)))

/-- Nobody before `i` has touched its footprint, nobody after it does. -/
theorem seqRunT_alone (hdisj : ∀ i j l, (thr i).foot l → (thr j).foot l → i = j) (r : RefT α)
    {pre post : List Nat} {i : Nat} (hnd : (pre ++ i :: post).Nodup) :
    (seqRunT now thr r (pre ++ i :: post)).res i =
      some (((thr i).body.eval now r.w []).1, ((thr i).body.eval now r.w []).2.1) ∧
    ∀ l, (thr i).foot l →
      atT (seqRunT now thr r (pre ++ i :: post)).w l = atT ((thr i).body.eval now r.w []).2.2.1 l := by
  obtain ⟨_, hcons, hne⟩ := List.nodup_append.mp hnd
  have hpre : i ∉ pre := fun h => hne i h i (List.mem_cons_self ..) rfl
  have hpost : i ∉ post := (List.nodup_cons.mp hcons).1
  have out : ∀ {order : List Nat}, i ∉ order → ∀ l, (thr i).foot l → ∀ j ∈ order, ¬ (thr j).foot l :=
    fun ho l hl j hj hjl => ho (hdisj i j l hl hjl ▸ hj)
  have hs : seqRunT now thr r (pre ++ i :: post) = seqRunT now thr ((seqRunT now thr r pre).runOne now thr i) post := by
    simp only [seqRunT, List.foldl_append, List.foldl_cons]
  obtain ⟨e1, e2, e3⟩ := eval_sameT now (thr i).foot (hbody i) (seqRunT now thr r pre).w r.w fun l hl =>
    seqRunT_other hbody pre r l (out hpre l hl)
  rw [hs]
  refine ⟨?_, fun l hl => ?_⟩
  · rw [seqRunT_res now thr post _ i hpost]
    simp only [RefT.runOne, if_true]
    rw [e1, e2]
  · rw [seqRunT_other hbody post _ l (out hpost l hl)]
    exact e3 l hl

end

/-- Sections with pairwise disjoint footprints get what they get alone, at every point of every
    schedule: whatever the others are still doing, a connection that has finished has returned and
    emitted what it does alone, and its footprint holds what it leaves alone (`InvT.quiet` applies
    there: nobody still inside works on it).  No locks are needed: with a stripe of its own for
    every section (C14) every schedule is admitted. -/
theorem aloneT {α : Type} (now : Nat) (thr : Nat → ThreadT α)
    (hbody : ∀ i, AllReqs (FootLocalT (thr i).foot) (thr i).body)
    (hdisj : ∀ i j l, (thr i).foot l → (thr j).foot l → i = j)
    (w : World) (sched : List Step) (c' : Conf α) (hex : ExecT now thr (Conf.init w) sched c') :
    (∀ i a evs, c'.ts i = .done a evs →
      a = ((thr i).body.eval now w []).1 ∧ evs = ((thr i).body.eval now w []).2.1 ∧
      ∀ l, (thr i).foot l → atT c'.w l = atT ((thr i).body.eval now w []).2.2.1 l) ∧
    (∀ l, (∀ i, ¬ (thr i).foot l) → atT c'.w l = atT w l) := by
  have h := hex.invT hbody (fun i j l hi hj => by rw [hdisj i j l hi hj]) (invT_init now thr w)
  obtain ⟨nd, _, _⟩ := (execT_iff.mp hex).acqOrder_nodup
  refine ⟨fun i a evs hi => ?_, fun l hl => ?_⟩
  · have hres := h.done i a evs hi
    by_cases hmem : i ∈ acqOrder sched
    · obtain ⟨pre, post, e⟩ := List.append_of_mem hmem
      rw [e] at nd hres h
      obtain ⟨x, y⟩ := seqRunT_alone hbody hdisj { w := w, res := fun _ => none } nd
      rw [x] at hres
      cases hres
      refine ⟨rfl, rfl, fun l hl => (h.quiet l fun j p evs hj hjl => ?_).trans (y l hl)⟩
      rw [hdisj j i l hjl hl, hi] at hj
      cases hj
    · rw [seqRunT_res now thr _ _ i hmem] at hres
      cases hres
  · exact (h.quiet l fun j _ _ _ => hl j).trans (seqRunT_other hbody _ _ l fun i _ => hl i)

end Rend.Conc
