/-
  The reduction of C03 with a CHUNKED L1 (exclusive locks).

  L1-only deployment (the shape memproxy runs with `--chunked`): a single-key command issues backend
  requests only on the metadata entry and the numbered chunks of its key (`chunkFoot`), and these
  key sets are disjoint for different client keys: the hypotheses of SerialFoot.lean.

  Chunked L1 IN FRONT OF an L2 (`--chunked --l2-enabled`): main port = L1L2 over (chunking handler on
  L1, pass-through on L2), batch port = L1L2Batch over the same.  Footprints are PER TIER
  (SerialFootT.lean): that of client key `k` is `{(L2, k)} ∪ {(L1, k-meta), (L1, k-0), …}` (`footT`).
  They are disjoint for different client keys WITHOUT any assumption on the shape of the keys (the
  L2 entry `a-0` of client key `a-0` and chunk 0 of client key `a` lie in different stores), so the
  theorem holds for every set of client keys.
-/
import Rend.Proofs.OrcaRefine
import Rend.Proofs.OrcaFoot
import Rend.Proofs.ChunkedTier
import Rend.Proofs.SerialFoot

namespace Rend.Conc
open Rend Rend.Chunked

def chunkFoot (key : Bytes) : Bytes → Prop :=
  fun k' => k' = metaKey key ∨ ∃ i, k' = chunkKey key i

theorem derived_footLocal (key : Bytes) (t : Tier) (r : Req) (h : Derived key t r) : FootLocal (chunkFoot key) t r :=
  h.symm

/-- `derived_disjoint` for a request with that key, say a get. -/
theorem chunkFoot_disjoint (k k' x : Bytes) (h : chunkFoot k x) (h' : chunkFoot k' x) : k = k' :=
  derived_disjoint k k' .l1 { op := .get, key := x } (.inr h) (.inr h') nofun

theorem l1only_chunked_footLocal (now : Nat) (c : Cmd) (k : Bytes) (h : cmdKey c = some k) :
    AllReqs (FootLocal (chunkFoot k)) (L1Only.step (Chunked.handler .l1 now) c) :=
  L1Only.step_foot (F := fun k => FootLocal (chunkFoot k))
    ((Chunked.handler_foot .l1 now).mono fun k t r hd => derived_footLocal k t r hd.2) h

/-- A connection's critical section on a chunked L1-only deployment. -/
structure ChThread where
  cmd : Cmd
  key : Bytes
  stripe : Nat

def ChThread.toF (now : Nat) (t : ChThread) : ThreadF (HRes Unit) :=
  { foot := chunkFoot t.key, stripe := t.stripe, body := L1Only.step (Chunked.handler .l1 now) t.cmd }

theorem serializable_chunked (now : Nat) (thr : Nat → ChThread)
    (hkey : ∀ i, cmdKey (thr i).cmd = some (thr i).key)
    (hstripe : ∀ i j, (thr i).key = (thr j).key → (thr i).stripe = (thr j).stripe)
    (w : World) (sched : List Step) (c' : Conf (HRes Unit))
    (hex : ExecF now (fun i => (thr i).toF now) (Conf.init w) sched c')
    (hquiet : ∀ i p evs, c'.ts i ≠ .running p evs) :
    c'.w = (seqRunF now (fun i => (thr i).toF now) { w := w, res := fun _ => none } (acqOrder sched)).w ∧
    ∀ i a evs, c'.ts i = .done a evs →
      (seqRunF now (fun i => (thr i).toF now) { w := w, res := fun _ => none } (acqOrder sched)).res i = some (a, evs) :=
  serializableF now (fun i => (thr i).toF now)
    (fun i => l1only_chunked_footLocal now (thr i).cmd (thr i).key (hkey i))
    (fun i j k hi hj => hstripe i j (chunkFoot_disjoint _ _ k hi hj))
    w sched c' hex hquiet

/-- In words at `C03_serializable` and `C03_serializable_chunked` (Props/C03.lean). -/
theorem serializable_chunked_obs (now : Nat) (thr : Nat → ChThread)
    (hkey : ∀ i, cmdKey (thr i).cmd = some (thr i).key)
    (hstripe : ∀ i j, (thr i).key = (thr j).key → (thr i).stripe = (thr j).stripe)
    (w : World) (sched : List Step) (c' : Conf (HRes Unit))
    (hex : ExecF now (fun i => (thr i).toF now) (Conf.init w) sched c')
    (hquiet : ∀ i p evs, c'.ts i ≠ .running p evs) :
    c'.w = seqEndF now (fun i => (thr i).toF now) w (acqOrder sched) ∧
    (acqOrder sched).map c'.ts =
      (seqObsF now (fun i => (thr i).toF now) w (acqOrder sched)).map (fun o => TState.done o.1 o.2) :=
  serializableFF_obs now (fun i => (thr i).toF now)
    (fun i => l1only_chunked_footLocal now (thr i).cmd (thr i).key (hkey i))
    (fun i j k hi hj => hstripe i j (chunkFoot_disjoint _ _ k hi hj))
    w sched c' hex hquiet

/-- The orchestrator a port runs with a chunked L1 in front of a pass-through L2. -/
def portStepC (now : Nat) : Port → Cmd → OProg (HRes Unit)
  | .main => L1L2.step (Chunked.handler .l1 now) (Std.handler .l2)
  | .batch => L1L2Batch.step (Chunked.handler .l1 now) (Std.handler .l2)

/-- A connection's critical section on a deployment with a chunked L1 in front of L2. -/
structure ChThread2 where
  port : Port
  cmd : Cmd
  key : Bytes
  stripe : Nat

def footT (key : Bytes) : Loc → Prop :=
  fun l => (l.1 = .l2 ∧ l.2 = key) ∨ (l.1 = .l1 ∧ chunkFoot key l.2)

theorem derivedAt_footT (key : Bytes) (t : Tier) (r : Req) (h : DerivedAt .l1 key t r) : FootLocalT (footT key) t r := by
  obtain ⟨ht, h⟩ := h
  subst ht
  rcases derived_footLocal key .l1 r h with h | h
  · exact Or.inl (Or.inr ⟨rfl, h⟩)
  · exact Or.inr h

theorem footT_disjoint (k k' : Bytes) (l : Loc) (h : footT k l) (h' : footT k' l) : k = k' := by
  rcases h with ⟨t1, e1⟩ | ⟨t1, c1⟩
  · rcases h' with ⟨_, e2⟩ | ⟨t2, _⟩
    · exact e1.symm.trans e2
    · rw [t1] at t2; cases t2
  · rcases h' with ⟨t2, _⟩ | ⟨_, c2⟩
    · rw [t1] at t2; cases t2
    · exact chunkFoot_disjoint _ _ _ c1 c2

theorem portStepC_footT (now : Nat) (p : Port) (c : Cmd) (k : Bytes) (h : cmdKey c = some k) :
    AllReqs (FootLocalT (footT k)) (portStepC now p c) := by
  have f1 : (Chunked.handler (ε := OEv) .l1 now).Foot fun k => FootLocalT (footT k) :=
    (Chunked.handler_foot .l1 now).mono derivedAt_footT
  have f2 : (Std.handler (ε := OEv) .l2).Foot fun k => FootLocalT (footT k) :=
    (Std.handler_foot .l2).mono fun k t r ⟨ht, hr⟩ => ht ▸ Or.inl (Or.inl ⟨rfl, hr⟩)
  cases p
  · exact L1L2.step_foot f1 f2 h
  · exact L1L2Batch.step_foot f1 f2 h

def ChThread2.toT (now : Nat) (t : ChThread2) : ThreadT (HRes Unit) :=
  { foot := footT t.key, stripe := t.stripe, body := portStepC now t.port t.cmd }

/-- In words at `C03_serializable` and `C03_serializable_chunked_two_tier` (Props/C03.lean). -/
theorem serializable_chunked2 (now : Nat) (thr : Nat → ChThread2)
    (hkey : ∀ i, cmdKey (thr i).cmd = some (thr i).key)
    (hstripe : ∀ i j, (thr i).key = (thr j).key → (thr i).stripe = (thr j).stripe)
    (w : World) (sched : List Step) (c' : Conf (HRes Unit))
    (hex : ExecT now (fun i => (thr i).toT now) (Conf.init w) sched c')
    (hquiet : ∀ i p evs, c'.ts i ≠ .running p evs) :
    c'.w = seqEndT now (fun i => (thr i).toT now) w (acqOrder sched) ∧
    (acqOrder sched).map c'.ts =
      (seqObsT now (fun i => (thr i).toT now) w (acqOrder sched)).map (fun o => TState.done o.1 o.2) :=
  serializableTT_obs now (fun i => (thr i).toT now)
    (fun i => portStepC_footT now (thr i).port (thr i).cmd (thr i).key (hkey i))
    (fun i j l hi hj => hstripe i j (footT_disjoint _ _ l hi hj))
    w sched c' hex hquiet

/-- `footT` with the tiers not told apart: the sets of client keys `a` and `a-0` overlap although
    their entries lie in different stores. -/
def foot2 (key : Bytes) : Bytes → Prop := fun x => x = key ∨ chunkFoot key x

def ChThread2.toF (now : Nat) (t : ChThread2) : ThreadF (HRes Unit) :=
  { foot := foot2 t.key, stripe := t.stripe, body := portStepC now t.port t.cmd }

/-- `serializable_chunked2` for the `toF` sections.  A scheduler never reads a footprint: `toF` and
    `toT` sections admit the same schedules and have the same sequential runs.  The hypothesis
    `hsep` (no client key has the form of a backend entry `<key>-meta`, `<key>-<n>` of another: what
    would make the `foot2` footprints disjoint) is not used. -/
theorem serializable_chunked2_partial (now : Nat) (thr : Nat → ChThread2)
    (hkey : ∀ i, cmdKey (thr i).cmd = some (thr i).key)
    (hstripe : ∀ i j, (thr i).key = (thr j).key → (thr i).stripe = (thr j).stripe)
    (hsep : ∀ i j, ¬ chunkFoot (thr j).key (thr i).key)
    (w : World) (sched : List Step) (c' : Conf (HRes Unit))
    (hex : ExecF now (fun i => (thr i).toF now) (Conf.init w) sched c')
    (hquiet : ∀ i p evs, c'.ts i ≠ .running p evs) :
    c'.w = seqEndF now (fun i => (thr i).toF now) w (acqOrder sched) ∧
    (acqOrder sched).map c'.ts =
      (seqObsF now (fun i => (thr i).toF now) w (acqOrder sched)).map (fun o => TState.done o.1 o.2) := by
  have h := serializable_chunked2 now thr hkey hstripe w sched c' (execT_iff.mpr (execF_iff.mp hex)) hquiet
  rw [seqEndT_eq_seqEndF now (fun i => (thr i).toF now) _ fun _ => rfl,
    seqObsT_eq_seqObsF now (fun i => (thr i).toF now) _ fun _ => rfl] at h
  exact h

end Rend.Conc
