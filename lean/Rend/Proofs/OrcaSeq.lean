/-
  One orchestrator step against `Spec.step`, for the three deployment shapes, and its lift to
  arbitrary histories of commands, clock ticks and L1 evictions.
-/
import Rend.Proofs.OrcaRefine

namespace Rend

theorem Agrees.ok_or_app {c : Cmd} {o : SOut} {res : HRes Unit} {evs : List OEv} (h : Agrees c o res evs) :
    res = .ok () ∨ ∃ e, res = .error (.app e) := by
  cases c <;> cases o <;> simp only [Agrees] at h <;>
    first
      | exact .inl h.1         -- acknowledged, answered
      | exact .inr h.1         -- refused
      | exact .inr ⟨_, h.1⟩    -- the unknown command

/-- The commands the two-tier orchestrators implement (`GetE` is refused by them). -/
def TwoTier (c : Cmd) : Prop := ∀ g, c ≠ .getE g

theorem eval_step_simple (now : Nat) (w : World) (tk : List Bytes) (c : Cmd) (p : OProg (HRes Unit))
    (hp : (∃ e, p = reply e) ∨ (∃ r, p = pure r)) : (p.eval now w tk).2.2.1 = w := by
  rcases hp with ⟨e, rfl⟩ | ⟨r, rfl⟩ <;> simp [eval_reply]

theorem portStep_refines (now : Nat) (w : World) (tk : List Bytes) (p : Port) (c : Cmd) (hc : TwoTier c)
    (hinv : CacheInv now w) : Refines now w c ((portStep p c).eval now w tk) := by
  cases c with
  | store k sc => exact portStep_store_refines now w tk p k sc hinv
  | get g => exact portStep_get_refines now w tk p g hinv
  | getE g => exact absurd rfl (hc g)
  | gat k => exact portStep_gat_refines now w tk p k hinv
  | delete k => exact portStep_delete_refines now w tk p k hinv
  | touch k => exact portStep_touch_refines now w tk p k hinv
  | noop _ | quit _ _ | version _ | stat _ | unknown =>
    cases p <;> simpa [Refines, portStep, L1L2.step, L1L2Batch.step, eval_reply, Spec.step, Agrees] using hinv

/-- What `L1Only.step_refines` needs to know of the handler under the single-tier orchestrator: its
    `store`, `get` and `getE` serve the L1 store as the reference map does (the error of a refused
    store is left open); its `gat`, `delete` and `touch` ARE the pass-through handler's. -/
structure ServesMap (now : Nat) (h : Handler OEv) : Prop where
  store : ∀ k c w tk, ∃ e, (h.store k c).eval now w tk =
    (if (mcStore now w.l1 k c).2 then .ok () else .error (.app e), [], w.put .l1 (mcStore now w.l1 k c).1, tk)
  get : ∀ ks w tk, ∃ rs, (h.get ks).eval now w tk = ((rs, none), [], w, tk) ∧
    rs.map viewOf = ks.map (specView now w.l1)
  getE : ∀ ks w tk, ∃ rs, (h.getE ks).eval now w tk = ((rs, none), [], w, tk) ∧
    rs.map viewOf = ks.map (specView now w.l1)
  gat : ∀ c, h.gat c = (Std.handler .l1).gat c
  delete : ∀ c, h.delete c = (Std.handler .l1).delete c
  touch : ∀ c, h.touch c = (Std.handler .l1).touch c

theorem Std.servesMap (now : Nat) : ServesMap now (Std.handler .l1) where
  store k c w tk := ⟨missErr k, eval_std_store now .l1 w tk k c⟩
  get ks w tk := ⟨_, eval_std_getLoop_get now .l1 w tk ks, map_view_std now w.l1 false ks⟩
  getE ks w tk := ⟨_, eval_std_getLoop_gete now .l1 w tk ks, map_view_std now w.l1 true ks⟩
  gat _ := rfl
  delete _ := rfl
  touch _ := rfl

theorem L1Only.step_refines (now : Nat) (h : Handler OEv) (hs : ServesMap now h) (w : World) (tk : List Bytes) (c : Cmd) :
    let r := (L1Only.step h c).eval now w tk
    r.2.2.1.l1 = (Spec.step now w.l1 c).1 ∧ r.2.2.1.l2 = w.l2 ∧ Agrees c (Spec.step now w.l1 c).2 r.1 r.2.1 := by
  cases c with
  | store k sc =>
    obtain ⟨e, he⟩ := hs.store k sc w tk
    rw [spec_step_store, L1Only.step_store, eval_oneTier_of he]
    cases hok : (mcStore now w.l1 k sc).2 <;> simp [Agrees]
  | get g =>
    obtain ⟨rs, he, hv⟩ := hs.get g.keys w tk
    simp only [L1Only.step, L1Only.get]
    rw [Prog.eval_bind, he]
    simp only [List.nil_append]
    rw [Prog.eval_bind, eval_emitGets_map]
    simp only [eval_reply, Spec.step]
    exact ⟨trivial, trivial, rfl, _, rfl, by rw [specGets_map, hv]⟩
  | getE g =>
    obtain ⟨rs, he, hv⟩ := hs.getE g.keys w tk
    simp only [L1Only.step, L1Only.getE]
    rw [Prog.eval_bind, he]
    simp only [List.nil_append]
    rw [Prog.eval_bind, eval_emitGetEs]
    simp only [eval_reply, Spec.step]
    exact ⟨trivial, trivial, rfl, _, rfl, by rw [specGets_map, hv]⟩
  | gat k =>
    rw [spec_step_gat]
    simp only [L1Only.step, L1Only.gat, hs.gat]
    rw [eval_andThen_gat]
    cases h1 : w.l1.look now k.key <;> simp [eval_reply, Agrees, stdGatResp, h1]
  | delete k =>
    rw [spec_step_delete, L1Only.step_delete, hs.delete, eval_oneTier_of (eval_std_delete now .l1 w tk k)]
    cases hk : (mcDelete now w.l1 k.key).2 <;> simp [Agrees, hk]
  | touch k =>
    rw [spec_step_touch, L1Only.step_touch, hs.touch, eval_oneTier_of (eval_std_touch now .l1 w tk k)]
    cases hk : (mcTouch now w.l1 k.key k.exptime).2 <;> simp [Agrees, hk]
  | noop _ | quit _ _ | version _ | stat _ | unknown => simp [L1Only.step, eval_reply, Spec.step, Agrees]

/-- What can happen between and including commands: a command on a port, the loss of any set
    of L1 entries, the passing of time. -/
inductive Act where
  | cmd (p : Port) (c : Cmd)
  | evict (lost : Bytes → Bool)
  | tick (dt : Nat)

def runActs (now : Nat) (w : World) (tk : List Bytes) : List Act → List (HRes Unit × List OEv)
  | [] => []
  | .cmd p c :: rest =>
    (((portStep p c).eval now w tk).1, ((portStep p c).eval now w tk).2.1) ::
      runActs now ((portStep p c).eval now w tk).2.2.1 ((portStep p c).eval now w tk).2.2.2 rest
  | .evict lost :: rest => runActs now (w.evict lost) tk rest
  | .tick dt :: rest => runActs (now + dt) w tk rest

def endActs (now : Nat) (w : World) (tk : List Bytes) : List Act → Nat × World
  | [] => (now, w)
  | .cmd p c :: rest =>
    endActs now ((portStep p c).eval now w tk).2.2.1 ((portStep p c).eval now w tk).2.2.2 rest
  | .evict lost :: rest => endActs now (w.evict lost) tk rest
  | .tick dt :: rest => endActs (now + dt) w tk rest

def specActs (now : Nat) (s : Store) : List Act → List (Cmd × SOut)
  | [] => []
  | .cmd _ c :: rest => (c, (Spec.step now s c).2) :: specActs now (Spec.step now s c).1 rest
  | .evict _ :: rest => specActs now s rest
  | .tick dt :: rest => specActs (now + dt) s rest

def specEnd (now : Nat) (s : Store) : List Act → Store
  | [] => s
  | .cmd _ c :: rest => specEnd now (Spec.step now s c).1 rest
  | .evict _ :: rest => specEnd now s rest
  | .tick dt :: rest => specEnd (now + dt) s rest

inductive AllAgree : List (HRes Unit × List OEv) → List (Cmd × SOut) → Prop where
  | nil : AllAgree [] []
  | cons {o so os sos} : Agrees so.1 so.2 o.1 o.2 → AllAgree os sos → AllAgree (o :: os) (so :: sos)

theorem AllAgree.length_eq {os sos} (h : AllAgree os sos) : os.length = sos.length := by
  induction h with
  | nil => rfl
  | cons _ _ ih => simp [ih]

theorem AllAgree.map {ι : Type} (f : ι → HRes Unit × List OEv) (g : ι → Cmd × SOut) : ∀ l : List ι,
    (∀ i ∈ l, Agrees (g i).1 (g i).2 (f i).1 (f i).2) → AllAgree (l.map f) (l.map g)
  | [], _ => .nil
  | i :: l, h => .cons (h i (List.mem_cons_self ..)) (map f g l fun j hj => h j (List.mem_cons_of_mem _ hj))

def ActsTwoTier (acts : List Act) : Prop := ∀ p c, Act.cmd p c ∈ acts → TwoTier c

theorem ActsTwoTier.head {p : Port} {c : Cmd} {rest : List Act} (h : ActsTwoTier (.cmd p c :: rest)) : TwoTier c :=
  h p c (List.mem_cons_self ..)

theorem ActsTwoTier.tail {a : Act} {rest : List Act} (h : ActsTwoTier (a :: rest)) : ActsTwoTier rest :=
  fun p c hm => h p c (List.mem_cons_of_mem _ hm)

theorem history_refines : ∀ (acts : List Act) (now : Nat) (w : World) (tk : List Bytes),
    ActsTwoTier acts → CacheInv now w →
      AllAgree (runActs now w tk acts) (specActs now w.l2 acts) ∧
      (endActs now w tk acts).2.l2 = specEnd now w.l2 acts ∧
      CacheInv (endActs now w tk acts).1 (endActs now w tk acts).2
  | [], _, _, _, _, hinv => ⟨.nil, rfl, hinv⟩
  | .cmd p c :: rest, now, w, tk, htt, hinv => by
    obtain ⟨h1, h2, h3⟩ := portStep_refines now w tk p c htt.head hinv
    obtain ⟨i1, i2, i3⟩ := history_refines rest now _ ((portStep p c).eval now w tk).2.2.2 htt.tail h2
    simp only [runActs, specActs, endActs, specEnd]
    rw [h1] at i1 i2
    exact ⟨.cons h3 i1, i2, i3⟩
  | .evict lost :: rest, now, w, tk, htt, hinv => history_refines rest now (w.evict lost) tk htt.tail (hinv.evict lost)
  | .tick dt :: rest, now, w, tk, htt, hinv =>
    history_refines rest (now + dt) w tk htt.tail (hinv.mono (Nat.le_add_right _ _))

def stripEvicts : List Act → List Act
  | [] => []
  | .evict _ :: rest => stripEvicts rest
  | a :: rest => a :: stripEvicts rest

theorem specActs_strip : ∀ (acts : List Act) (now : Nat) (s : Store),
    specActs now s (stripEvicts acts) = specActs now s acts
  | [], _, _ => rfl
  | a :: rest, now, s => by cases a <;> simp [stripEvicts, specActs, specActs_strip rest]

theorem stripEvicts_sublist : ∀ acts : List Act, (stripEvicts acts).Sublist acts
  | [] => .slnil
  | .evict _ :: rest => (stripEvicts_sublist rest).cons _
  | .cmd _ _ :: rest => (stripEvicts_sublist rest).cons_cons _
  | .tick _ :: rest => (stripEvicts_sublist rest).cons_cons _

theorem stripEvicts_twoTier (acts : List Act) (h : ActsTwoTier acts) : ActsTwoTier (stripEvicts acts) :=
  fun p c hm => h p c ((stripEvicts_sublist acts).subset hm)

/-- Histories of the L1-only deployment: `(dt, c)` is the command `c`, `dt` seconds after the one before.
    There are no evictions as in `Act`: with L1 alone a lost entry is a lost value, which the client sees
    and the specification's map does not show. -/
def runActs1 (now : Nat) (w : World) (tk : List Bytes) : List (Nat × Cmd) → List (HRes Unit × List OEv)
  | [] => []
  | (dt, c) :: rest =>
    (((L1Only.step (Std.handler .l1) c).eval (now + dt) w tk).1, ((L1Only.step (Std.handler .l1) c).eval (now + dt) w tk).2.1) ::
      runActs1 (now + dt) ((L1Only.step (Std.handler .l1) c).eval (now + dt) w tk).2.2.1
        ((L1Only.step (Std.handler .l1) c).eval (now + dt) w tk).2.2.2 rest

def specActs1 (now : Nat) (s : Store) : List (Nat × Cmd) → List (Cmd × SOut)
  | [] => []
  | (dt, c) :: rest => (c, (Spec.step (now + dt) s c).2) :: specActs1 (now + dt) (Spec.step (now + dt) s c).1 rest

theorem history_refines_l1only : ∀ (acts : List (Nat × Cmd)) (now : Nat) (w : World) (tk : List Bytes),
    AllAgree (runActs1 now w tk acts) (specActs1 now w.l1 acts)
  | [], _, _, _ => .nil
  | (dt, c) :: rest, now, w, tk => by
    obtain ⟨h1, _, h3⟩ := L1Only.step_refines (now + dt) _ (Std.servesMap _) w tk c
    have ih := history_refines_l1only rest (now + dt) ((L1Only.step (Std.handler .l1) c).eval (now + dt) w tk).2.2.1
      ((L1Only.step (Std.handler .l1) c).eval (now + dt) w tk).2.2.2
    simp only [runActs1, specActs1]
    rw [h1] at ih
    exact .cons h3 ih

end Rend
