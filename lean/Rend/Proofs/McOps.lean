/-
  The write operations of the reference map as functions from a store to the new store and
  whether the operation applied (`mcStore`, `mcDelete`, `mcTouch`), and what `Mc.exec` and
  `Spec.step` compute in terms of them.
-/
import Rend.Proofs.StoreLemmas
import Rend.Handlers.Std
import Rend.SpecStep

namespace Rend

def newItem (now : Nat) (c : SetCmd) : Item := ⟨c.data, c.flags, deadlineOf now c.exptime⟩

def mcStore (now : Nat) (s : Store) (k : SetKind) (c : SetCmd) : Store × Bool :=
  match k, s.look now c.key with
  | .set, _ => (s.set c.key (some (newItem now c)), true)
  | .add, none => (s.set c.key (some (newItem now c)), true)
  | .add, some _ => (s, false)
  | .replace, some _ => (s.set c.key (some (newItem now c)), true)
  | .replace, none => (s, false)
  | .append, some it => (s.set c.key (some { it with data := it.data ++ c.data }), true)
  | .append, none => (s, false)
  | .prepend, some it => (s.set c.key (some { it with data := c.data ++ it.data }), true)
  | .prepend, none => (s, false)

/-- The status with which the backend refuses a store of kind `k`.  `set` is never refused; its
    entry is a filler that nothing reads. -/
def failCode : SetKind → Nat
  | .set => 0 | .add => stExists | .replace => stNotFound | .append => stNotStored | .prepend => stNotStored

abbrev stdReq := @Std.storeReq

theorem mc_exec_store (now : Nat) (s : Store) (k : SetKind) (c : SetCmd) :
    Mc.exec now s (stdReq k c) = ((mcStore now s k c).1, if (mcStore now s k c).2 then .ok else .status (failCode k)) := by
  cases h : s.look now c.key <;> cases k <;> simp [Std.storeReq, SetKind.op, Mc.exec, mcStore, newItem, failCode, h]

theorem exec_add_absent (now : Nat) (s : Store) (r : Req) (hop : r.op = .add) (h : s.look now r.key = none) :
    Mc.exec now s r = (s.set r.key (some ⟨r.value, r.flags, deadlineOf now r.exptime⟩), .ok) := by
  unfold Mc.exec
  simp only [hop, h]

theorem exec_add_present (now : Nat) (s : Store) (r : Req) (hop : r.op = .add) (it : Item) (h : s.look now r.key = some it) :
    Mc.exec now s r = (s, .status stExists) := by
  unfold Mc.exec
  simp only [hop, h]

theorem spec_step_store (now : Nat) (s : Store) (k : SetKind) (c : SetCmd) :
    Spec.step now s (.store k c) = ((mcStore now s k c).1, if (mcStore now s k c).2 then .ok else .fail) := by
  cases h : s.look now c.key <;> cases k <;> simp [Spec.step, SetKind.op, Mc.exec, mcStore, newItem, h]

/-- The error the pass-through handler returns for a refused store of kind `k`: what `failCode k`
    decodes to (the entry for `set` is a filler again, hence `k ≠ .set` below). -/
def missErr : SetKind → Err
  | .set => .keyNotFound | .add => .keyExists | .replace => .keyNotFound | .append => .itemNotStored | .prepend => .itemNotStored

theorem decode_fail (k : SetKind) (hk : k ≠ .set) : decodeError (failCode k) = some (missErr k) := by
  cases k with
  | set => exact absurd rfl hk
  | _ => decide

theorem mcStore_other (now : Nat) (s : Store) (k : SetKind) (c : SetCmd) (key : Bytes) (h : key ≠ c.key) :
    (mcStore now s k c).1.look now key = s.look now key := by
  cases hl : s.look now c.key <;> cases k <;> simp [mcStore, hl, Store.look_set_other _ _ _ _ _ h]

theorem mcStore_refused {now : Nat} {s : Store} {k : SetKind} {c : SetCmd} (h : (mcStore now s k c).2 = false) :
    (mcStore now s k c).1 = s ∧ k ≠ .set := by
  cases hl : s.look now c.key <;> cases k <;> simp [mcStore, hl] at h ⊢

def mcDelete (now : Nat) (s : Store) (key : Bytes) : Store × Bool :=
  match s.look now key with
  | some _ => (s.set key none, true)
  | none => (s, false)

def mcTouch (now : Nat) (s : Store) (key : Bytes) (exptime : Nat) : Store × Bool :=
  match s.look now key with
  | some it => (s.set key (some { it with deadline := deadlineOf now exptime }), true)
  | none => (s, false)

theorem mc_exec_delete (now : Nat) (s : Store) (key : Bytes) :
    Mc.exec now s { op := .delete, key := key } =
      ((mcDelete now s key).1, if (mcDelete now s key).2 then .ok else .status stNotFound) := by
  cases h : s.look now key <;> simp [Mc.exec, mcDelete, h]

theorem mc_exec_touch (now : Nat) (s : Store) (key : Bytes) (e : Nat) :
    Mc.exec now s { op := .touch, key := key, exptime := e } =
      ((mcTouch now s key e).1, if (mcTouch now s key e).2 then .ok else .status stNotFound) := by
  cases h : s.look now key <;> simp [Mc.exec, mcTouch, h]

theorem mc_exec_get (now : Nat) (s : Store) (key : Bytes) (withExp : Bool) :
    Mc.exec now s { op := if withExp then .gete else .get, key := key } =
      (s, match s.look now key with
          | some it => .hit it.flags (if withExp then remaining now it else 0) it.data
          | none => .status stNotFound) := by
  cases withExp <;> cases h : s.look now key <;> simp [Mc.exec, h]

theorem mc_exec_gat (now : Nat) (s : Store) (key : Bytes) (e : Nat) :
    Mc.exec now s { op := .gat, key := key, exptime := e } =
      ((mcTouch now s key e).1,
       match s.look now key with
       | some it => .hit it.flags 0 it.data
       | none => .status stNotFound) := by
  cases h : s.look now key <;> simp [Mc.exec, mcTouch, h]

theorem spec_step_delete (now : Nat) (s : Store) (k : KeyCmd) :
    Spec.step now s (.delete k) = ((mcDelete now s k.key).1, if (mcDelete now s k.key).2 then .ok else .fail) := by
  cases h : s.look now k.key <;> simp [Spec.step, Mc.exec, mcDelete, h]

theorem spec_step_touch (now : Nat) (s : Store) (k : KeyCmd) :
    Spec.step now s (.touch k) =
      ((mcTouch now s k.key k.exptime).1, if (mcTouch now s k.key k.exptime).2 then .ok else .fail) := by
  cases h : s.look now k.key <;> simp [Spec.step, Mc.exec, mcTouch, h]

theorem spec_step_gat (now : Nat) (s : Store) (k : KeyCmd) :
    Spec.step now s (.gat k) =
      ((mcTouch now s k.key k.exptime).1, .gat ((s.look now k.key).map fun it => (it.flags, it.data))) := by
  cases h : s.look now k.key <;> simp [Spec.step, Mc.exec, mcTouch, h]

theorem mcDelete_other (now : Nat) (s : Store) (key k' : Bytes) (h : k' ≠ key) :
    (mcDelete now s key).1.look now k' = s.look now k' := by
  cases hl : s.look now key <;> simp [mcDelete, hl, Store.look_set_other _ _ _ _ _ h]

theorem mcTouch_other (now : Nat) (s : Store) (key k' : Bytes) (e : Nat) (h : k' ≠ key) :
    (mcTouch now s key e).1.look now k' = s.look now k' := by
  cases hl : s.look now key <;> simp [mcTouch, hl, Store.look_set_other _ _ _ _ _ h]

theorem mcDelete_look (now : Nat) (s : Store) (key : Bytes) : (mcDelete now s key).1.look now key = none := by
  cases hl : s.look now key <;> simp [mcDelete, hl, Store.look_set_none]

theorem mcDelete_miss {now : Nat} {s : Store} {key : Bytes} (h : (mcDelete now s key).2 = false) :
    (mcDelete now s key).1 = s := by
  cases hl : s.look now key <;> simp [mcDelete, hl] at h ⊢

theorem mcTouch_miss {now : Nat} {s : Store} {key : Bytes} {e : Nat} (h : (mcTouch now s key e).2 = false) :
    (mcTouch now s key e).1 = s := by
  cases hl : s.look now key <;> simp [mcTouch, hl] at h ⊢

end Rend
