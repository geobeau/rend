/-
  Invariants along a fault-free run: what every admitted request preserves, the run preserves.
-/
import Rend.Proofs.Eval
import Rend.Proofs.ProgLemmas
import Rend.Proofs.BytesLemmas
import Rend.Proofs.McLocal

namespace Rend

theorem AllReqs.eval_preserves {ε α : Type} {P : Tier → Req → Prop} {I : World → Prop} (now : Nat)
    (hstep : ∀ w t r, P t r → I w → I (w.put t (Mc.exec now (w.get t) r).1))
    {p : Prog ε α} (hp : AllReqs P p) :
    ∀ (w : World) (tk : List Bytes), (∀ x ∈ tk, x.length = 16) → I w → I (p.eval now w tk).2.2.1 := by
  induction hp with
  | ret a => exact fun _ _ _ h => h
  | call t r k hr _ ih => exact fun w tk htk h => ih _ _ tk htk (hstep w t r hr h)
  | draw k _ ih =>
    intro w tk htk h
    cases tk with
    | nil => exact ih _ (Bytes.zeros_length 16) w [] htk h
    | cons x xs => exact ih x (htk x (List.mem_cons_self ..)) w xs (fun y hy => htk y (List.mem_cons_of_mem _ hy)) h
  | emit e p _ ih => exact ih

theorem AllReqs.eval_untouched {ε α : Type} (now : Nat) (t0 : Tier) (k : Bytes) {p : Prog ε α}
    (hp : AllReqs (fun t r => t = t0 → r.op = .noop ∨ r.key ≠ k) p)
    (w : World) (tk : List Bytes) (htk : ∀ x ∈ tk, x.length = 16) : ((p.eval now w tk).2.2.1.get t0) k = (w.get t0) k := by
  refine hp.eval_preserves (I := fun w' => (w'.get t0) k = (w.get t0) k) now ?_ w tk htk rfl
  intro w' t r hr h
  rw [World.get_put]
  split
  · next ht =>
    rw [← h, ← ht]
    rcases hr ht.symm with hn | hk
    · rw [Mc.exec_noop now _ hn]
    · exact Mc.exec_other now _ r (Ne.symm hk)
  · exact h

end Rend
