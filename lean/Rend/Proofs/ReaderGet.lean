/-
  The single-key get of both ports is `Stable`: answered at each of its requests from any state of
  its key's class, it returns what the single map holds.  The two ports share the read of L1
  (`getVia_stable`) and differ in what follows a miss.
-/
import Rend.Proofs.OrcaRefine
import Rend.Proofs.ReaderStable

namespace Rend.Conc
open Rend

/-- What the single map answers for a key whose entry is `b`. -/
def lookB (now : Nat) (b : Option Item) : Option (Nat × Bytes) :=
  match b with
  | some b' => if b'.live now then some (b'.flags, b'.data) else none
  | none => none

theorem lookB_spec (now : Nat) (S : Store) (k : Bytes) :
    lookB now (S k) = (S.look now k).map fun it => (it.flags, it.data) := by
  unfold lookB Store.look
  cases S k with
  | none => rfl
  | some it => cases h : it.live now <;> simp [h]

/-- In its key's class a get is answered from L2's entry `b`, here as the constant store. -/
theorem stdGetResp_l2 {now : Nat} {b : Option Item} {w : World} (withExp : Bool) (g : GetKey)
    (hw : InClass now g.key b w) : stdGetResp now w.l2 withExp g = stdGetResp now (fun _ => b) withExp g := by
  unfold stdGetResp
  rw [Store.look_congr (s' := fun _ => b) now hw.2]

theorem view_std_entry (now : Nat) (withExp : Bool) (g : GetKey) (b : Option Item) :
    viewOf (stdGetResp now (fun _ => b) withExp g) = (g.key, g.opq, g.quiet, lookB now b) := by
  rw [view_std, specView, ← lookB_spec]

namespace Stable
variable {β : Type} {now : Nat} {k : Bytes} {b : Option Item}

theorem getLoop_bind (t : Tier) (withExp : Bool) (g : GetKey) (f : List GetResp × Option HErr → Prog OEv β)
    (Q : β × List OEv → Prop)
    (h : ∀ w, InClass now k b w → Stable now k b Q (f ([stdGetResp now (w.get t) withExp g], none))) :
    Stable now k b Q (Std.getLoop t (if withExp then .gete else .get) [g] >>= f) := by
  unfold Std.getLoop
  -- `(req >>= decode) >>= f`: split off `f`, then the request from the decoding of its answer
  apply Stable.bind
  apply Stable.bind
  apply Stable.req
  intro w hw
  rw [mc_exec_get, World.put_get_self]
  refine ⟨hw, ?_⟩
  -- hit or miss, the loop ends after this one answer, without an error, in what `stdGetResp` says
  have hf := h w hw
  cases hl : (w.get t).look now g.key with
  | none =>
    -- `getLocal` decodes the status `stNotFound` to `keyNotFound`: the branch that answers a miss
    simp only [stdGetResp, hl] at hf
    simp only [Std.getLocal, decode_notFound, Std.getLoop]
    exact Stable.ret _ _ hf
  | some it =>
    simp only [stdGetResp, hl] at hf
    simp only [Std.getLocal, Std.getLoop]
    exact Stable.ret _ _ hf

theorem andThen {α : Type} (p : OProg (HRes α)) (f : HRes α → OProg (HRes β)) (Q : HRes β × List OEv → Prop)
    (h : Stable now k b (fun x => x.1 ≠ .error .panic ∧ x.1 ≠ .error .crash ∧
      Stable now k b (fun y => Q (y.1, x.2 ++ y.2)) (f x.1)) p) : Stable now k b Q (Rend.andThen p f) := by
  unfold Rend.andThen
  apply Stable.bind
  apply h.mono
  rintro ⟨r, es⟩ ⟨h1, h2, h3⟩
  -- with `h1`, `h2` at hand `simp` takes the last arm of `andThen`'s `match`
  simp only
  exact h3

theorem emitGets_one (r : GetResp) (Q : Unit × List OEv → Prop) (h : Q ((), [.resp (.get r)])) :
    Stable now k b Q (emitGets [r]) :=
  Stable.bind _ _ _ (Stable.out _ _ (Stable.ret _ _ h))

end Stable

theorem Stable.reply' {now : Nat} {k : Bytes} {b : Option Item} (e : REv) (Q : HRes Unit × List OEv → Prop)
    (h : Q (.ok (), [.resp e])) : Stable now k b Q (reply e) :=
  Stable.bind _ _ _ (Stable.out _ _ (Stable.ret _ _ h))

theorem backfill_stable (now : Nat) (g : GetKey) (b : Option Item) :
    Stable now g.key b (fun x => x.1 = .ok () ∧ x.2 = [.resp (.get (fwdResp (stdGetResp now (fun _ => b) true g)))])
      (L1L2.backfill (Std.handler .l1) [stdGetResp now (fun _ => b) true g]) := by
  unfold L1L2.backfill
  -- forwarding the answer with nothing left to back-fill is a reply
  cases b with
  | none => exact Stable.reply' _ _ ⟨rfl, rfl⟩
  | some it =>
    cases hlive : it.live now with
    | false =>
      rw [if_pos (by simp [stdGetResp, Store.look, hlive])]
      exact Stable.reply' _ _ ⟨rfl, rfl⟩
    | true =>
      have hr : stdGetResp now (fun _ => some it) true g =
          { key := g.key, data := it.data, opq := g.opq, flags := it.flags, exptime := remaining now it, quiet := g.quiet } := by
        simp [stdGetResp, Store.look, hlive]
      rw [hr, if_neg (by simp)]
      apply Stable.andThen
      show Stable now g.key _ _ (Std.store .l1 .set _)
      unfold Std.store
      apply Stable.bind
      apply Stable.req
      intro w hw
      rw [mc_exec_store]
      -- the class is kept: L1's new entry is L2's, with L2's remaining lifetime
      exact ⟨⟨.of_entries (Store.set_same ..) hw.2 rfl rfl (backfill_outlives now it hlive), hw.2⟩,
        Stable.ret _ _ ⟨nofun, nofun, Stable.reply' _ _ ⟨rfl, rfl⟩⟩⟩

/-- The answer of a single-key get against a key whose entry is `b`. -/
def QGet (now : Nat) (g : GetCmd) (gk : GetKey) (b : Option Item) (x : HRes Unit × List OEv) : Prop :=
  x.1 = .ok () ∧ ∃ r : GetResp, x.2 = [.resp (.get r), .resp (.getEnd g.noopOpaque g.noopEnd)] ∧
    viewOf r = (gk.key, gk.opq, gk.quiet, lookB now b)

/-- A hit in L1 is answered from L1, and a live L1 entry carries L2's data (`InClass.l1_hit`). -/
theorem getVia_stable (now : Nat) (g : GetCmd) (gk : GetKey) (hk : g.keys = [gk]) (b : Option Item)
    (rest : List GetKey → Option HErr → OProg (HRes Unit))
    (hrest : Stable now gk.key b (QGet now g gk b) (rest [gk] none)) :
    Stable now gk.key b (QGet now g gk b) (getVia (Std.handler .l1) g rest) := by
  unfold getVia
  rw [hk]
  refine Stable.getLoop_bind .l1 false gk _ _ fun w hw => ?_
  rw [World.get_l1]
  cases hl : w.l1.look now gk.key with
  | none =>
    simp only [stdGetResp, hl, L1L2.splitL1, if_true, List.isEmpty_cons, Bool.false_eq_true, if_false]
    exact Stable.bind _ _ _ (Stable.ret _ _ hrest)
  | some a =>
    obtain ⟨b', rfl, hlive, hd, hf⟩ := hw.l1_hit hl
    simp only [stdGetResp, hl, L1L2.splitL1, Bool.false_eq_true, if_false, List.isEmpty_nil, if_true]
    refine Stable.bind _ _ _ (Stable.emitGets_one _ _ (Stable.reply' _ _ ⟨rfl, _, rfl, ?_⟩))
    simp [viewOf, lookB, hlive, hd, hf]

theorem L1L2_get_stable (now : Nat) (g : GetCmd) (gk : GetKey) (hk : g.keys = [gk]) (b : Option Item) :
    Stable now gk.key b (QGet now g gk b) (L1L2.get (Std.handler .l1) (Std.handler .l2) g) := by
  rw [L1L2.get_eq]
  refine getVia_stable now g gk hk b _ (Stable.getLoop_bind .l2 true gk _ _ fun w hw => ?_)
  rw [World.get_l2, stdGetResp_l2 true gk hw]
  apply Stable.andThen
  refine (backfill_stable now gk b).mono ?_
  rintro ⟨res, es⟩ ⟨rfl, rfl⟩
  exact ⟨nofun, nofun, Stable.reply' _ _ ⟨rfl, _, rfl, view_std_entry now true gk b⟩⟩

theorem L1L2Batch_get_stable (now : Nat) (g : GetCmd) (gk : GetKey) (hk : g.keys = [gk]) (b : Option Item) :
    Stable now gk.key b (QGet now g gk b) (L1L2Batch.get (Std.handler .l1) (Std.handler .l2) g) := by
  rw [L1L2Batch.get_eq]
  refine getVia_stable now g gk hk b _ (Stable.getLoop_bind .l2 false gk _ _ fun w hw => ?_)
  rw [World.get_l2, stdGetResp_l2 false gk hw]
  exact Stable.bind _ _ _ (Stable.emitGets_one _ _ (Stable.reply' _ _ ⟨rfl, _, rfl, view_std_entry now false gk b⟩))

end Rend.Conc
